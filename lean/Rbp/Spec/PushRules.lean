namespace T
abbrev Bytes := List UInt8

/-- push forms of Bitcoin script -/
inductive Form | direct | pd1 | pd2 | pd4 deriving DecidableEq, Repr

/-- full-fidelity tokens (spec side): every byte of the script is accounted for -/
inductive Tok
  | push (f : Form) (bs : Bytes)
  | op (b : UInt8)
deriving DecidableEq, Repr

def toLE : Nat → Nat → Bytes
  | 0, _ => []
  | k+1, n => UInt8.ofNat (n % 256) :: toLE k (n / 256)
def le (bs : Bytes) : Nat := bs.foldr (fun b acc => b.toNat + 256 * acc) 0

def Form.width : Form → Nat | .direct => 0 | .pd1 => 1 | .pd2 => 2 | .pd4 => 4
def Form.opcode : Form → UInt8 | .direct => 0 | .pd1 => 0x4c | .pd2 => 0x4d | .pd4 => 0x4e

def Tok.enc : Tok → Bytes
  | .push .direct bs => UInt8.ofNat bs.length :: bs
  | .push f bs => f.opcode :: (toLE f.width bs.length ++ bs)
  | .op b => [b]

def Tok.WF : Tok → Prop
  | .push .direct bs => 1 ≤ bs.length ∧ bs.length ≤ 75
  | .push f bs => bs.length < 256 ^ f.width
  | .op b => b.toNat = 0 ∨ b.toNat > 0x4e

/-- Bitcoin push rules as a tokeniser on the remaining bytes; `none` = a push runs past the end -/
def tokenise (s : Bytes) : Option (List Tok) :=
  match s with
  | [] => some []
  | b :: rest =>
    let pushK (f : Form) (k : Nat) : Option (List Tok) :=
      if h : k ≤ rest.length then
        let n := le (rest.take k)
        let r := rest.drop k
        if h2 : n ≤ r.length then
          (tokenise (r.drop n)).map (Tok.push f (r.take n) :: ·)
        else none
      else none
    if 1 ≤ b.toNat ∧ b.toNat ≤ 75 then
      if h2 : b.toNat ≤ rest.length then
        (tokenise (rest.drop b.toNat)).map (Tok.push .direct (rest.take b.toNat) :: ·)
      else none
    else if b.toNat = 0x4c then pushK .pd1 1
    else if b.toNat = 0x4d then pushK .pd2 2
    else if b.toNat = 0x4e then pushK .pd4 4
    else (tokenise rest).map (Tok.op b :: ·)
termination_by s.length
decreasing_by all_goals (simp [List.length_drop]; try omega)

theorem take_drop_append (xs ys : Bytes) : (xs ++ ys).take xs.length = xs ∧ (xs ++ ys).drop xs.length = ys := by
  simp
end T
