namespace D

structure Rec where
  file : Nat
  off : Nat
deriving DecidableEq, Repr

/-- the (filtered) index as a partial function from heights -/
abbrev Index := Nat → Option Rec

/-- `for height in cur..=max { match get(height) { None => break, Some => deliver } }`, `n` = heights left -/
def loop (idx : Index) : Nat → Nat → List Nat
  | _, 0 => []
  | h, n+1 => match idx h with
    | none => []
    | some _ => h :: loop idx (h + 1) n

def maxHeight (e : Option Nat) (T : Nat) : Nat := match e with
  | some e => if e < T then e else T
  | none => T

def trimmed (idx : Index) (s maxH : Nat) (isDefault : Bool) : Index :=
  if isDefault then idx else fun h => if s - 1 ≤ h ∧ h ≤ maxH then idx h else none

/-- heights delivered for options (s, e) on an index whose highest height is T -/
def delivered (idx : Index) (T s : Nat) (e : Option Nat) : List Nat :=
  let maxH := maxHeight e T
  loop (trimmed idx s maxH (s == 0 && e.isNone)) s (maxH + 1 - s)

theorem loop_contig (idx : Index) : ∀ (n h : Nat), (∀ k, h ≤ k → k < h + n → idx k ≠ none) →
    loop idx h n = List.range' h n
  | 0, _, _ => rfl
  | n + 1, h, hc => by
    rw [loop, List.range'_succ, ← loop_contig idx n (h + 1) fun k h1 h2 => hc k (by omega) (by omega)]
    cases hi : idx h with
    | none => exact absurd hi (hc h (Nat.le_refl _) (by omega))
    | some r => rfl

theorem maxHeight_eq_min (e T : Nat) : maxHeight (some e) T = min e T := by
  unfold maxHeight
  dsimp only
  split <;> omega

theorem maxHeight_le : ∀ (e : Option Nat) (T : Nat), maxHeight e T ≤ T
  | none, T => Nat.le_refl T
  | some e, T => maxHeight_eq_min e T ▸ Nat.min_le_right e T

/-- C02 core: contiguous chain 0..T ⇒ exactly s..min(e,T), ascending, each once -/
theorem delivered_eq (idx : Index) (T s : Nat) (e : Option Nat) (hcontig : ∀ k, k ≤ T → idx k ≠ none) :
    delivered idx T s e = List.range' s (maxHeight e T + 1 - s) := by
  refine loop_contig _ _ _ fun k hk1 hk2 => ?_
  have hT : k ≤ T := Nat.le_trans (by omega) (maxHeight_le e T)
  unfold trimmed
  split
  · exact hcontig k hT
  · show (if s - 1 ≤ k ∧ k ≤ maxHeight e T then idx k else none) ≠ none
    rw [if_pos ⟨by omega, by omega⟩]
    exact hcontig k hT

/-! C17: open-file bookkeeping along the loop -/

/-- state after each `get_block`: the set of open files as a list without duplicates is not needed; a predicate suffices -/
def stepOpen (maxBy : Nat → Nat) (opened : Nat → Bool) (h : Nat) (r : Rec) : Nat → Bool :=
  fun f => if f = r.file then decide (h < maxBy r.file) else opened f

def runOpen (idx : Index) (maxBy : Nat → Nat) : Nat → Nat → (Nat → Bool) → (Nat → Bool)
  | _, 0, o => o
  | h, n+1, o => match idx h with
    | none => o
    | some r => runOpen idx maxBy (h + 1) n (stepOpen maxBy o h r)

/-- `maxBy f` is the greatest height stored in file `f` (computed over the untrimmed index) -/
structure MaxBySpec (idx : Index) (maxBy : Nat → Nat) : Prop where
  upper : ∀ h r, idx h = some r → h ≤ maxBy r.file
  attained : ∀ h r, idx h = some r → ∃ r', idx (maxBy r.file) = some r' ∧ r'.file = r.file

/-- invariant: every open file still holds a block above the last delivered height, and was named by some record -/
def Inv (idx : Index) (maxBy : Nat → Nat) (next : Nat) (o : Nat → Bool) : Prop :=
  ∀ f, o f = true → next ≤ maxBy f ∧ ∃ h r, idx h = some r ∧ r.file = f
end D
