/-!
# The dump folder across runs (C13): what a run leaves does not depend on what it found

`File::create` truncates, `rename` replaces.  A run creates its tmp files, appends its rows, renames tmp → final.
-/
namespace Fd
abbrev Bytes := List UInt8
abbrev Folder := String → Option Bytes

inductive Op
  | create (n : String)            -- File::create: new empty file, or an existing one truncated to length 0
  | append (n : String) (d : Bytes)
  | rename (a b : String)          -- rename(2): b is replaced, a disappears

def upd (f : Folder) (n : String) (v : Option Bytes) : Folder := fun m => if m = n then v else f m

def step (f : Folder) : Op → Folder
  | .create n => upd f n (some [])
  | .append n d => upd f n ((f n).map (· ++ d))
  | .rename a b => upd (upd f b (f a)) a none

def exec (f : Folder) (p : List Op) : Folder := p.foldl step f

/-- the program of one run with tmp names `ts`, row chunks `rows` (tmp name, bytes) and final names `fs` (paired with `ts`) -/
def runProg (ts : List String) (rows : List (String × Bytes)) (fs : List String) : List Op :=
  ts.map Op.create ++ rows.map (fun r => Op.append r.1 r.2) ++ (ts.zip fs).map (fun p => Op.rename p.1 p.2)

/-- the names a program touches -/
def touched : Op → List String
  | .create n => [n]
  | .append n _ => [n]
  | .rename a b => [a, b]

/-- a name that is created before anything else happens to it -/
def FreshFirst (p : List Op) (n : String) : Prop :=
  ∃ pre post, p = pre ++ Op.create n :: post ∧ ∀ o ∈ pre, n ∉ touched o

theorem step_untouched (f : Folder) (o : Op) (n : String) (h : n ∉ touched o) : step f o n = f n := by
  cases o with
  | create m => simp only [touched, List.mem_singleton] at h; simp [step, upd, h]
  | append m d => simp only [touched, List.mem_singleton] at h; simp [step, upd, h]
  | rename a b =>
    simp only [touched, List.mem_cons, List.not_mem_nil, or_false, not_or] at h
    simp [step, upd, h.1, h.2]

theorem exec_cons (f : Folder) (o : Op) (p : List Op) : exec f (o :: p) = exec (step f o) p := rfl
theorem exec_append (f : Folder) (p q : List Op) : exec f (p ++ q) = exec (exec f p) q := List.foldl_append

theorem exec_untouched (p : List Op) : ∀ (f : Folder) (n : String), (∀ o ∈ p, n ∉ touched o) → exec f p n = f n := by
  induction p with
  | nil => intro f n _; rfl
  | cons o p ih =>
    intro f n h
    rw [exec_cons, ih _ n fun o' ho' => h o' (List.mem_cons_of_mem _ ho'), step_untouched f o n (h o List.mem_cons_self)]

/-! The three phases of a run.  `create` forgets what was there, `append` works on each name by itself, and `rename` carries
    agreement from its source to its target: so two folders agree on the tmp names after the creates, still do after the appends,
    and agree on the final names too after the renames. -/

theorem exec_creates (ts : List String) : ∀ (f : Folder) (n : String),
    exec f (ts.map Op.create) n = if n ∈ ts then some [] else f n := by
  induction ts with
  | nil => intro f n; rfl
  | cons t ts ih =>
    intro f n
    rw [List.map_cons, exec_cons, ih]
    by_cases h : n ∈ ts <;> by_cases h' : n = t <;> simp [h, h', step, upd]

theorem exec_appends (rows : List (String × Bytes)) : ∀ (f g : Folder) (n : String), f n = g n →
    exec f (rows.map fun r => Op.append r.1 r.2) n = exec g (rows.map fun r => Op.append r.1 r.2) n := by
  induction rows with
  | nil => intro f g n h; exact h
  | cons r rows ih =>
    intro f g n h
    rw [List.map_cons, exec_cons, exec_cons]
    refine ih _ _ n ?_
    simp only [step, upd]
    split
    · rw [← ‹n = r.1›, h]
    · exact h

def AgreeOn (S : String → Prop) (f g : Folder) : Prop := ∀ n, S n → f n = g n

theorem exec_renames (ps : List (String × String)) : ∀ (S : String → Prop) (f g : Folder), AgreeOn S f g → (∀ p ∈ ps, S p.1) →
    AgreeOn (fun n => S n ∨ n ∈ ps.map (·.2))
      (exec f (ps.map fun p => Op.rename p.1 p.2)) (exec g (ps.map fun p => Op.rename p.1 p.2)) := by
  induction ps with
  | nil => intro S f g h _ n hn; exact h n (hn.resolve_right List.not_mem_nil)
  | cons p ps ih =>
    intro S f g h hsrc n hn
    rw [List.map_cons, exec_cons, exec_cons]
    -- after `rename p.1 p.2` the folders agree on `p.2` as well: it holds what `p.1` held, on which they agreed
    refine ih (fun n => S n ∨ n = p.2) _ _ (fun n hn => ?_) (fun q hq => .inl (hsrc q (List.mem_cons_of_mem _ hq))) n
      (hn.elim (.inl ∘ .inl) fun h => (List.mem_cons.mp h).elim (.inl ∘ .inr) .inr)
    simp only [step, upd]
    split
    · rfl
    · split
      · exact h _ (hsrc p List.mem_cons_self)
      · exact h n (hn.resolve_right ‹_›)
end Fd
