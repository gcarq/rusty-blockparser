import Rbp.Model.Output
/-!
# C10 for a callback with several output files (csvdump writes four)

`n` buffered writers on `n` tmp files; rows are written in any interleaving; `on_complete` flushes all writers, then renames
all files, then the writers are dropped.  One shared `ok` flag: the first reported error ends the process.
-/
namespace ON
open O

structure S where
  ws : Nat → W
  ok : Bool
  renamed : Nat → Bool

inductive Cmd
  | write (i : Nat) (d : Bytes)
  | flush (i : Nat)
  | rename (i : Nat)
  | drop (i : Nat)

def upd {α} (f : Nat → α) (i : Nat) (x : α) : Nat → α := fun j => if j = i then x else f j

theorem upd_apply {α} (f : Nat → α) (i j : Nat) (x : α) : upd f i x j = if j = i then x else f j := rfl

def step (s : S) (c : Cmd) : S :=
  if !s.ok then s else
  match c with
  | .write i d => let r := (s.ws i).writeAll d; { s with ws := upd s.ws i r.1, ok := r.2 }
  | .flush i => let r := (s.ws i).flushBuf; { s with ws := upd s.ws i r.1, ok := r.2 }
  | .rename i => { s with renamed := upd s.renamed i true }
  | .drop i => { s with ws := upd s.ws i (s.ws i).flushBuf.1 }

def init (cap : Nat) (budget : Nat → Nat) : S := ⟨fun i => ⟨cap, budget i, [], [], []⟩, true, fun _ => false⟩
def exec (s : S) (p : List Cmd) : S := p.foldl step s

/-- the program of a run: rows in any interleaving, then flush every writer, then rename every file, then drop the writers -/
def prog (n : Nat) (writes : List (Nat × Bytes)) : List Cmd :=
  (writes.map (fun p => Cmd.write p.1 p.2) ++ (List.range n).map Cmd.flush) ++
  ((List.range n).map Cmd.rename ++ (List.range n).map Cmd.drop)

/-- what file `i` must contain in the end -/
def content (i : Nat) (writes : List (Nat × Bytes)) : Bytes := (writes.filter (·.1 = i)).flatMap (·.2)

theorem exec_cons (s : S) (c : Cmd) (p : List Cmd) : exec s (c :: p) = exec (step s c) p := rfl
theorem exec_append (s : S) (p q : List Cmd) : exec s (p ++ q) = exec (exec s p) q := List.foldl_append

theorem step_frozen (s : S) (c : Cmd) (h : s.ok = false) : step s c = s := by simp [step, h]
theorem exec_frozen (s : S) (p : List Cmd) (h : s.ok = false) : exec s p = s := by
  induction p with
  | nil => rfl
  | cons c p ih => rw [exec_cons, step_frozen s c h, ih]

theorem ok_of_exec {s : S} {p : List Cmd} (h : (exec s p).ok = true) : s.ok = true := by
  cases hs : s.ok with
  | true => rfl
  | false => rw [exec_frozen s p hs, hs] at h; exact h

theorem ok_of_step {s : S} {c : Cmd} (h : (step s c).ok = true) : s.ok = true := ok_of_exec (p := [c]) h

theorem step_renamed (s : S) (c : Cmd) (i : Nat) :
    (step s c).renamed i = true ↔ s.renamed i = true ∨ (s.ok = true ∧ c = .rename i) := by
  cases hok : s.ok <;> cases c <;> simp [step, hok, upd_apply]
  exact Or.comm.trans (or_congr_right eq_comm)

theorem rd_renamed (p : List Cmd) : ∀ s : S, ∀ i, (exec s p).renamed i = true → s.renamed i = true ∨ Cmd.rename i ∈ p := by
  induction p with
  | nil => exact fun s i h => Or.inl h
  | cons c p ih =>
    intro s i h
    rcases ih _ i h with h | h
    · rcases (step_renamed s c i).mp h with h | ⟨_, rfl⟩
      · exact Or.inl h
      · exact Or.inr List.mem_cons_self
    · exact Or.inr (List.mem_cons_of_mem _ h)

theorem renamed_of_ok (p : List Cmd) (i : Nat) : ∀ s : S, (exec s p).ok = true → s.renamed i = true ∨ Cmd.rename i ∈ p →
    (exec s p).renamed i = true := by
  induction p with
  | nil => exact fun s _ h => h.resolve_right List.not_mem_nil
  | cons c p ih =>
    intro s hok h
    refine ih _ hok ?_
    rcases h with h | h
    · exact Or.inl ((step_renamed s c i).mpr (Or.inl h))
    · exact (List.mem_cons.mp h).imp (fun e => (step_renamed s c i).mpr (Or.inr ⟨ok_of_step (ok_of_exec hok), e.symm⟩)) id

theorem writes_inv (writes : List (Nat × Bytes)) : ∀ s s' : S, exec s (writes.map fun p => Cmd.write p.1 p.2) = s' → s'.ok = true →
    ∀ i, (s'.ws i).disk ++ (s'.ws i).buf = (s.ws i).disk ++ (s.ws i).buf ++ content i writes := by
  induction writes with
  | nil => rintro s _ rfl _ i; simp [exec, content]
  | cons w ws ih =>
    rintro s _ rfl h i
    rw [List.map_cons, exec_cons] at h ⊢
    have h1 := ok_of_exec h
    have hok : s.ok = true := ok_of_step h1
    rw [ih _ _ rfl h i]
    simp only [step, hok, Bool.not_true, Bool.false_eq_true, if_false, upd_apply] at h1 ⊢
    by_cases hi : i = w.1
    · subst hi; simp [writeAll_ok _ _ h1, content]
    · simp [hi, Ne.symm hi, content]

theorem flushes_inv (L : List Nat) : ∀ s s' : S, exec s (L.map Cmd.flush) = s' → s'.ok = true →
    ∀ i, (s'.ws i).disk ++ (s'.ws i).buf = (s.ws i).disk ++ (s.ws i).buf ∧ (((s.ws i).buf = [] ∨ i ∈ L) → (s'.ws i).buf = []) := by
  induction L with
  | nil => rintro s _ rfl _ i; simp [exec]
  | cons a L ih =>
    rintro s _ rfl h i
    rw [List.map_cons, exec_cons] at h ⊢
    have h1 := ok_of_exec h
    have hok : s.ok = true := ok_of_step h1
    obtain ⟨e1, e2⟩ := ih _ _ rfl h i
    rw [e1]
    simp only [step, hok, Bool.not_true, Bool.false_eq_true, if_false, upd_apply] at h1 e2 ⊢
    have hfo := flushBuf_ok (s.ws a) h1
    by_cases hi : i = a
    · subst hi; simp only [if_true] at e2 ⊢; exact ⟨by rw [hfo.1, hfo.2, List.append_nil], fun _ => e2 (Or.inl hfo.2)⟩
    · simp only [hi, if_false, List.mem_cons, false_or] at e2 ⊢; exact ⟨trivial, e2⟩

/-- a rename or a drop of one of the `n` files -/
def isRD (n : Nat) : Cmd → Prop
  | .rename j => j < n
  | .drop j => j < n
  | _ => False

theorem rd_inv (n : Nat) (p : List Cmd) (hp : ∀ c ∈ p, isRD n c) : ∀ s : S, s.ok = true → (∀ i, i < n → (s.ws i).buf = []) →
    (exec s p).ok = true ∧ ∀ i, i < n → ((exec s p).ws i).disk = (s.ws i).disk ∧ ((exec s p).ws i).buf = [] := by
  induction p with
  | nil => exact fun s hok hb => ⟨hok, fun i hi => ⟨rfl, hb i hi⟩⟩
  | cons c p ih =>
    intro s hok hb
    have hc := hp c List.mem_cons_self
    have one : (step s c).ok = true ∧ ∀ i, i < n → ((step s c).ws i).disk = (s.ws i).disk ∧ ((step s c).ws i).buf = [] := by
      cases c with
      | write j d => exact hc.elim
      | flush j => exact hc.elim
      | rename j => simpa [step, hok] using hb
      | drop j =>
        simp only [step, hok, Bool.not_true, Bool.false_eq_true, if_false, upd_apply, true_and]
        intro i hi
        split
        · subst i; exact flushBuf_nil _ (hb _ hi)
        · exact ⟨rfl, hb i hi⟩
    obtain ⟨h1, h2⟩ := ih (fun c' h' => hp c' (List.mem_cons_of_mem _ h')) _ one.1 fun i hi => (one.2 i hi).2
    exact ⟨h1, fun i hi => ⟨(h2 i hi).1.trans (one.2 i hi).1, (h2 i hi).2⟩⟩

/-- the two halves of `prog`: no rename in the first, only renames and drops of the `n` files in the second -/
def progA (n : Nat) (writes : List (Nat × Bytes)) : List Cmd := writes.map (fun p => Cmd.write p.1 p.2) ++ (List.range n).map Cmd.flush
def progB (n : Nat) : List Cmd := (List.range n).map Cmd.rename ++ (List.range n).map Cmd.drop

theorem prog_eq (n : Nat) (writes : List (Nat × Bytes)) : prog n writes = progA n writes ++ progB n := rfl

theorem progA_no_rename (n : Nat) (writes : List (Nat × Bytes)) (j : Nat) : Cmd.rename j ∉ progA n writes := by simp [progA]

theorem progB_rd (n : Nat) : ∀ c ∈ progB n, isRD n c := by
  simp only [progB, List.mem_append, List.mem_map, List.mem_range]
  rintro c (⟨j, hj, rfl⟩ | ⟨j, hj, rfl⟩) <;> exact hj

theorem init_not_renamed (cap : Nat) (budget : Nat → Nat) (q : List Cmd) (hq : ∀ j, Cmd.rename j ∉ q) (i : Nat) :
    (exec (init cap budget) q).renamed i = false := by
  cases h : (exec (init cap budget) q).renamed i with
  | false => rfl
  | true => exact nomatch (rd_renamed q _ i h).resolve_right (hq i)

/-- the state after `progA` and any renames and drops `q`: `q := progB n` gives `final_n`, a prefix of it `no_partial_instant_n` -/
theorem after_flush (n cap : Nat) (budget : Nat → Nat) (writes : List (Nat × Bytes)) (q : List Cmd) (hq : ∀ c ∈ q, isRD n c) :
    let s := exec (init cap budget) (progA n writes ++ q)
    (s.ok = true → ∀ i, i < n → (s.ws i).disk = content i writes ∧ (s.ws i).buf = []) ∧
    (s.ok = false → ∀ i, s.renamed i = false) := by
  intro s
  have hs : s = exec (exec (init cap budget) (progA n writes)) q := exec_append ..
  have hnr := init_not_renamed cap budget _ (progA_no_rename n writes)
  have hA : exec (init cap budget) (progA n writes) = _ := exec_append ..
  generalize exec (init cap budget) (progA n writes) = s2 at hs hnr hA
  cases hok2 : s2.ok with
  | false => rw [exec_frozen s2 q hok2] at hs; subst hs; exact ⟨fun h => absurd h (by simp [hok2]), fun _ => hnr⟩
  | true =>
    have h12 : ∀ i, i < n → (s2.ws i).disk = content i writes ∧ (s2.ws i).buf = [] := fun i hi => by
      subst hA
      have hf := flushes_inv (List.range n) _ _ rfl hok2 i
      have hb := hf.2 (Or.inr (List.mem_range.mpr hi))
      rw [hb, List.append_nil, writes_inv writes _ _ rfl (ok_of_exec hok2) i] at hf
      exact ⟨by simpa [init] using hf.1, hb⟩
    obtain ⟨hok, hd⟩ := rd_inv n q hq s2 hok2 fun i hi => (h12 i hi).2
    rw [← hs] at hok hd
    exact ⟨fun _ i hi => ⟨(hd i hi).1.trans (h12 i hi).1, (hd i hi).2⟩, fun h => absurd hok (by simp [h])⟩

/-- **exit status vs. files, n writers.**  Success ⇒ every file renamed and complete; a reported failure ⇒ no file renamed -/
theorem final_n (n cap : Nat) (budget : Nat → Nat) (writes : List (Nat × Bytes)) :
    let s := exec (init cap budget) (prog n writes)
    (s.ok = true → ∀ i, i < n → s.renamed i = true ∧ (s.ws i).disk = content i writes ∧ (s.ws i).buf = []) ∧
    (s.ok = false → ∀ i, s.renamed i = false) := by
  have h := after_flush n cap budget writes _ (progB_rd n)
  exact ⟨fun hok i hi => ⟨renamed_of_ok _ i _ hok (Or.inr (List.mem_append_right _ (List.mem_append_left _
    (List.mem_map_of_mem (List.mem_range.mpr hi))))), h.1 hok i hi⟩, h.2⟩

/-- **at no instant, n writers.**  After ANY prefix of the program (a SIGKILL at any point), every file visible under its
    final name holds its complete content and nothing of it is left in a buffer -/
theorem no_partial_instant_n (n cap : Nat) (budget : Nat → Nat) (writes : List (Nat × Bytes)) (k : Nat) :
    let s := exec (init cap budget) ((prog n writes).take k)
    ∀ i, i < n → s.renamed i = true → (s.ws i).disk = content i writes ∧ (s.ws i).buf = [] := by
  intro s i hi hren
  rcases Nat.le_total k (progA n writes).length with hk | hk
  · -- no rename has been executed yet
    have : s.renamed i = false := by
      simp only [s, prog_eq, List.take_append_of_le_length hk]
      exact init_not_renamed cap budget _ (fun j h => progA_no_rename n writes j (List.mem_of_mem_take h)) i
    rw [this] at hren; cases hren
  · have h := after_flush n cap budget writes ((progB n).take (k - (progA n writes).length)) fun c hc => progB_rd n c (List.mem_of_mem_take hc)
    have e : (prog n writes).take k = progA n writes ++ (progB n).take (k - (progA n writes).length) := by
      rw [prog_eq, List.take_append, List.take_of_length_le hk]
    rw [← e] at h
    cases hok : s.ok with
    | true => exact h.1 hok i hi
    | false => rw [h.2 hok i] at hren; cases hren
end ON

/-! ### One output file is the case `n = 1`

The single-writer machine `O` is the projection of the `n`-writer machine onto file 0, command by command, so its two theorems
are `final_n` and `no_partial_instant_n` read at `n = 1`. -/
namespace O

def emb : Cmd → ON.Cmd
  | .write d => .write 0 d
  | .flush => .flush 0
  | .rename => .rename 0
  | .drop => .drop 0

def proj (s : ON.S) : S := ⟨s.ws 0, s.ok, s.renamed 0⟩

theorem proj_step (s : ON.S) (c : Cmd) : proj (ON.step s (emb c)) = step (proj s) c := by
  cases hok : s.ok <;> cases c <;> simp [proj, emb, ON.step, step, hok, ON.upd_apply]

theorem proj_exec (p : List Cmd) : ∀ s : ON.S, proj (ON.exec s (p.map emb)) = exec (proj s) p := by
  induction p with
  | nil => exact fun _ => rfl
  | cons c p ih => intro s; rw [List.map_cons, ON.exec_cons, ih, proj_step]; rfl

theorem exec_eq_proj (cap budget : Nat) (p : List Cmd) :
    exec (init cap budget) p = proj (ON.exec (ON.init cap fun _ => budget) (p.map emb)) := (proj_exec p (ON.init cap fun _ => budget)).symm

theorem fixedProg_emb (chunks : List Bytes) : (fixedProg chunks).map emb = ON.prog 1 (chunks.map fun d => (0, d)) := by
  simp [ON.prog, fixedProg, emb, Function.comp_def]

theorem content_single (chunks : List Bytes) : ON.content 0 (chunks.map fun d => (0, d)) = chunks.flatten := by
  simp [ON.content, List.flatMap_map, List.filter_eq_self.mpr]

/-- C10 "at no instant": after ANY prefix of the repaired program, a file visible under its final name
    is complete and nothing is left in the buffer (so a SIGKILL at any point never leaves a partial final) -/
theorem fixed_no_partial_instant (cap budget : Nat) (chunks : List Bytes) (k : Nat) :
    let s := exec (init cap budget) ((fixedProg chunks).take k)
    s.renamed = true → s.w.disk = chunks.flatten ∧ s.w.buf = [] := by
  rw [exec_eq_proj, List.map_take, fixedProg_emb]
  exact fun hr => (ON.no_partial_instant_n 1 cap (fun _ => budget) (chunks.map fun d => (0, d)) k 0 Nat.one_pos hr).imp_left
    (·.trans (content_single chunks))
end O
