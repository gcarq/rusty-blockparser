namespace M
abbrev Bytes := List UInt8

/-- chunks(2) -/
def chunks2 {α} : List α → List (List α)
  | a :: b :: rest => [a, b] :: chunks2 rest
  | [a] => [[a]]
  | [] => []

/-- one iteration of the `while hashes.len() > 1` loop of utils::merkle_root, as written:
    hash full pairs, then if the length is odd push H(last ++ last) -/
def levelRust (H : Bytes → Bytes) (hs : List Bytes) : List Bytes :=
  let full := ((chunks2 hs).filter (fun c => c.length == 2)).map (fun c => H (c.flatten))
  if hs.length % 2 == 1 then
    match hs.getLast? with
    | some l => full ++ [H (l ++ l)]
    | none => full
  else full

/-- textbook level: pair up, duplicating the last element when alone -/
def level (H : Bytes → Bytes) : List Bytes → List Bytes
  | a :: b :: rest => H (a ++ b) :: level H rest
  | [a] => [H (a ++ a)]
  | [] => []

theorem level_length (H : Bytes → Bytes) (hs : List Bytes) : (level H hs).length = (hs.length + 1) / 2 := by
  fun_induction level H hs with
  | case1 a b rest ih => simp only [List.length_cons, ih]; omega
  | case2 a => simp
  | case3 => rfl

theorem levelRust_eq (H : Bytes → Bytes) : ∀ hs : List Bytes, levelRust H hs = level H hs
  | [] => rfl
  | [a] => rfl
  | [a, b] => by simp [levelRust, level, chunks2]
  | a :: b :: c :: rest => by
    -- two more elements in front: one more full pair, the same parity, the same last element
    have hp : (a :: b :: c :: rest).length % 2 = (c :: rest).length % 2 := by simp only [List.length_cons]; omega
    rw [level, ← levelRust_eq H (c :: rest), levelRust, levelRust, hp, List.getLast?_cons_cons, List.getLast?_cons_cons]
    simp only [chunks2, List.filter_cons_of_pos, List.length_cons, List.length_nil, beq_self_eq_true, List.map_cons,
      List.flatten_cons, List.flatten_nil, List.append_nil]
    split
    · split <;> rfl
    · rfl

/-- the whole loop, with fuel-free well-founded recursion on the length -/
def root (H : Bytes → Bytes) (hs : List Bytes) : Option Bytes :=
  match hs with
  | [] => none                       -- `.expect("unable to calculate merkle root on empty hashes")`
  | [h] => some h
  | a :: b :: rest => root H (level H (a :: b :: rest))
termination_by hs.length
decreasing_by
  simp only [level_length, List.length_cons]; omega

theorem level_collision (H : Bytes → Bytes) (xs ys : List Bytes) (hlen : xs.length = ys.length)
    (hx : ∀ x ∈ xs, x.length = 32) (hy : ∀ y ∈ ys, y.length = 32) (hne : xs ≠ ys) (heq : level H xs = level H ys) :
    ∃ p q : Bytes, p ≠ q ∧ H p = H q := by
  fun_induction level H xs generalizing ys with
  | case1 a a' xs ih =>
    match ys, hlen with
    | b :: b' :: ys, hlen =>
      simp only [level, List.cons.injEq] at heq
      by_cases hp : a ++ a' = b ++ b'
      · obtain ⟨rfl, rfl⟩ := List.append_inj hp ((hx a (by simp)).trans (hy b (by simp)).symm)
        exact ih ys (by simpa using hlen) (fun x h => hx x (by simp [h])) (fun y h => hy y (by simp [h])) (by simpa using hne) heq.2
      · exact ⟨_, _, hp, heq.1⟩
  | case2 a =>
    obtain ⟨b, rfl⟩ := List.length_eq_one_iff.mp hlen.symm
    simp only [level, List.cons.injEq, and_true] at heq
    refine ⟨_, _, fun h => hne ?_, heq⟩
    rw [(List.append_inj h ((hx a (by simp)).trans (hy b (by simp)).symm)).1]
  | case3 => exact absurd (List.length_eq_zero_iff.mp hlen.symm).symm hne

theorem level_mem_len (H : Bytes → Bytes) (h32 : ∀ x, (H x).length = 32) (xs : List Bytes) : ∀ y ∈ level H xs, y.length = 32 := by
  fun_induction level H xs <;> simp_all

theorem root_level (H : Bytes → Bytes) : ∀ ys : List Bytes, 2 ≤ ys.length → root H ys = root H (level H ys)
  | _ :: _ :: _, _ => root.eq_3 ..

/-- C09: two different txid lists of the same length with the same merkle root yield an explicit collision of H -/
theorem root_collision (H : Bytes → Bytes) (h32 : ∀ x, (H x).length = 32) (xs ys : List Bytes) (hlen : xs.length = ys.length)
    (hx : ∀ x ∈ xs, x.length = 32) (hy : ∀ y ∈ ys, y.length = 32) (hne : xs ≠ ys) (heq : root H xs = root H ys) :
    ∃ p q : Bytes, p ≠ q ∧ H p = H q := by
  fun_induction root H xs generalizing ys with
  | case1 => exact absurd (List.length_eq_zero_iff.mp hlen.symm).symm hne
  | case2 a =>
    obtain ⟨b, rfl⟩ := List.length_eq_one_iff.mp hlen.symm
    simp [root] at heq
    exact absurd (by rw [heq]) hne
  | case3 a b rest ih =>
    rw [root_level H ys (by simp at hlen; omega)] at heq
    by_cases hlev : level H (a :: b :: rest) = level H ys
    · exact level_collision H _ _ hlen hx hy hne hlev
    · exact ih _ (by simp [level_length, hlen]) (level_mem_len H h32 _) (level_mem_len H h32 _) hlev heq

/-- `utils::merkle_root` as written: `while hashes.len() > 1 { hashes = <one level> }; *hashes.first().expect(..)` -/
def rootRust (H : Bytes → Bytes) (hs : List Bytes) : Option Bytes :=
  if _h : hs.length > 1 then rootRust H (levelRust H hs) else hs.head?
termination_by hs.length
decreasing_by
  rw [levelRust_eq, level_length]; omega

theorem rootRust_eq (H : Bytes → Bytes) (hs : List Bytes) : rootRust H hs = root H hs := by
  fun_induction root H hs with
  | case1 => rw [rootRust]; rfl
  | case2 h => rw [rootRust]; rfl
  | case3 a b rest ih => rw [rootRust, dif_pos (by simp), levelRust_eq, ih]
end M
