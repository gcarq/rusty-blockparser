namespace Par
/-- rayon's indexed collect, abstractly: a pre-sized vector of slots; task `i` computes `f xs[i]` and
    writes it into slot `i`; a schedule is the order in which the tasks happen to complete. -/
def write {β} (slots : List (Option β)) (i : Nat) (v : β) : List (Option β) := slots.set i (some v)

def runSched {α β} (f : α → β) (xs : List α) (sched : List Nat) : List (Option β) :=
  sched.foldl (fun slots i => match xs[i]? with
    | some x => write slots i (f x)
    | none => slots) (List.replicate xs.length none)

/-- the slot vector keeps the length of the input, which is what makes an out-of-range task a no-op -/
theorem fold_get {α β} (f : α → β) (xs : List α) (sched : List Nat) :
    ∀ (slots : List (Option β)), slots.length = xs.length → ∀ j,
      (sched.foldl (fun slots i => match xs[i]? with
          | some x => write slots i (f x)
          | none => slots) slots)[j]? =
        if j ∈ sched then xs[j]?.map (some ∘ f) else slots[j]? := by
  induction sched with
  | nil => intro slots _ j; simp
  | cons i sched ih =>
    intro slots hl j
    rw [List.foldl_cons]
    cases hx : xs[i]? with
    | none =>
      rw [ih slots hl j]
      by_cases hji : j = i
      · subst hji; simp [hx, List.getElem?_eq_none (hl ▸ List.getElem?_eq_none_iff.mp hx)]
      · simp [hji]
    | some x =>
      have hi : i < slots.length := hl ▸ (List.getElem?_eq_some_iff.mp hx).1
      rw [ih _ (by simp [write, hl]) j]
      by_cases hji : j = i
      · subst hji; simp [write, hx, hi]
      · simp [write, hji, Ne.symm hji]

end Par
