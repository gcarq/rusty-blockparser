import Std.Data.HashMap
open Std
namespace U
abbrev Key := List UInt8

inductive Op (V : Type) where
  | spend (k : Key)
  | create (k : Key) (v : V)

def Op.key {V} : Op V → Key
  | .spend k => k
  | .create k _ => k

/-- model: remove_unspents / insert_unspents as one fold over the flattened operation list -/
def apply {V} (m : HashMap Key V) : Op V → HashMap Key V
  | .spend k => m.erase k
  | .create k v => m.insert k v

def run {V} (m : HashMap Key V) (ops : List (Op V)) : HashMap Key V := ops.foldl apply m

/-- spec: what the last operation mentioning `k` says; `init` if none does -/
def lastTouch {V} (init : Option V) (k : Key) : List (Op V) → Option V
  | [] => init
  | .spend k' :: rest => lastTouch (if k' = k then none else init) k rest
  | .create k' v :: rest => lastTouch (if k' = k then some v else init) k rest

theorem run_lookup {V} (ops : List (Op V)) : ∀ (m : HashMap Key V) (k : Key),
    (run m ops)[k]? = lastTouch m[k]? k ops := by
  induction ops with
  | nil => exact fun _ _ => rfl
  | cons op rest ih =>
    intro m k
    rw [run, List.foldl_cons, ← run, ih]
    cases op with
    | spend k' => rw [apply, lastTouch, HashMap.getElem?_erase]; simp only [beq_iff_eq]
    | create k' v => rw [apply, lastTouch, HashMap.getElem?_insert]; simp only [beq_iff_eq]

/-- what an operation leaves under its key -/
def Op.val {V} : Op V → Option V
  | .spend _ => none
  | .create _ v => some v

theorem lastTouch_cons {V} (init : Option V) (k : Key) (o : Op V) (rest : List (Op V)) :
    lastTouch init k (o :: rest) = lastTouch (if o.key = k then o.val else init) k rest := by cases o <;> rfl

theorem Op.eq_create {V} {o : Op V} {k : Key} {v : V} (hk : o.key = k) (hv : o.val = some v) : o = .create k v := by
  cases o with
  | spend _ => cases hv
  | create k' v' => cases hk; cases hv; rfl

theorem lastTouch_append {V} (k : Key) (a b : List (Op V)) : ∀ init, lastTouch init k (a ++ b) = lastTouch (lastTouch init k a) k b := by
  induction a with
  | nil => exact fun _ => rfl
  | cons o a ih => intro init; rw [List.cons_append, lastTouch_cons, lastTouch_cons, ih]

theorem lastTouch_untouched {V} (k : Key) (ops : List (Op V)) (h : ∀ o ∈ ops, o.key ≠ k) (init : Option V) :
    lastTouch init k ops = init := by
  induction ops with
  | nil => rfl
  | cons o ops ih => rw [lastTouch_cons, if_neg (h o List.mem_cons_self), ih fun o ho => h o (List.mem_cons_of_mem _ ho)]

/-- declarative reading: either a creation of `k ↦ v` not followed by any mention of `k`,
    or nothing mentions `k` and the initial binding was `v` -/
theorem lastTouch_iff {V} (k : Key) (v : V) (ops : List (Op V)) : ∀ (init : Option V),
    lastTouch init k ops = some v ↔
      (∃ pre post, ops = pre ++ Op.create k v :: post ∧ ∀ o ∈ post, o.key ≠ k)
      ∨ (init = some v ∧ ∀ o ∈ ops, o.key ≠ k) := by
  intro init
  constructor
  · -- peel operations off the front: each either moves into `pre`, or is the creation sought, or does not mention `k`
    induction ops generalizing init with
    | nil => exact fun h => Or.inr ⟨h, nofun⟩
    | cons o ops ih =>
      intro h
      rw [lastTouch_cons] at h
      rcases ih _ h with ⟨pre, post, rfl, hp⟩ | ⟨h1, h2⟩
      · exact Or.inl ⟨o :: pre, post, rfl, hp⟩
      · split at h1
        · exact Or.inl ⟨[], ops, congrArg (· :: ops) (Op.eq_create ‹_› h1), h2⟩
        · exact Or.inr ⟨h1, List.forall_mem_cons.mpr ⟨‹_›, h2⟩⟩
  · rintro (⟨pre, post, rfl, hp⟩ | ⟨rfl, h⟩)
    · rw [lastTouch_append, lastTouch, if_pos rfl, lastTouch_untouched k post hp]
    · exact lastTouch_untouched k ops h _

theorem unspent_from_empty {V} (ops : List (Op V)) (k : Key) :
    (run (∅ : HashMap Key V) ops)[k]? = lastTouch none k ops := by
  simpa using run_lookup ops ∅ k
end U
