namespace O
abbrev Bytes := List UInt8

/-- `BufWriter<File>` on a `*.tmp` file; `budget` is the fault parameter: the file cannot grow beyond it -/
structure W where
  cap : Nat
  budget : Nat
  buf : Bytes
  disk : Bytes
  log : List (Nat × Nat) := []     -- every raw write: (bytes offered, bytes that landed); observation only

/-- `File::write_all` under a size budget: the prefix that fits lands; `true` iff everything landed -/
def W.raw (w : W) (d : Bytes) : W × Bool :=
  let room := w.budget - w.disk.length
  if d.length ≤ room then ({ w with disk := w.disk ++ d, log := w.log ++ [(d.length, d.length)] }, true)
  else ({ w with disk := w.disk ++ d.take room, log := w.log ++ [(d.length, room)] }, false)

def W.flushBuf (w : W) : W × Bool :=
  let r := w.raw w.buf
  if r.2 then ({ r.1 with buf := [] }, true) else (r.1, false)

/-- `BufWriter::write_all` -/
def W.writeAll (w : W) (d : Bytes) : W × Bool :=
  let r := if w.buf.length + d.length > w.cap then w.flushBuf else (w, true)
  if !r.2 then (r.1, false)
  else if d.length ≥ r.1.cap then r.1.raw d
  else ({ r.1 with buf := r.1.buf ++ d }, true)

inductive Cmd
  | write (d : Bytes)
  | flush          -- explicit `writer.flush()?` in on_complete (the repair)
  | rename         -- fs::rename(tmp, final)
  | drop           -- BufWriter dropped at the end of main: flush, error ignored

structure S where
  w : W
  ok : Bool         -- false after the first reported error: the process exits 1, nothing else runs
  renamed : Bool    -- the file is visible under its final name (same inode, so later writes show there)

def step (s : S) (c : Cmd) : S :=
  if !s.ok then s else
  match c with
  | .write d => let r := s.w.writeAll d; { s with w := r.1, ok := r.2 }
  | .flush => let r := s.w.flushBuf; { s with w := r.1, ok := r.2 }
  | .rename => { s with renamed := true }
  | .drop => { s with w := s.w.flushBuf.1 }

def init (cap budget : Nat) : S := ⟨⟨cap, budget, [], [], []⟩, true, false⟩
def exec (s : S) (p : List Cmd) : S := p.foldl step s

def fixedProg (chunks : List Bytes) : List Cmd := chunks.map .write ++ [.flush, .rename, .drop]
def oldProg (chunks : List Bytes) : List Cmd := chunks.map .write ++ [.rename, .drop]

/-- logical stream invariant: while no error was reported, disk ++ buf is exactly what was written -/
theorem raw_ok (w : W) (d : Bytes) (h : (w.raw d).2 = true) :
    (w.raw d).1.disk = w.disk ++ d ∧ (w.raw d).1.buf = w.buf := by
  by_cases hc : d.length ≤ w.budget - w.disk.length <;> simp [W.raw, hc] at h ⊢

theorem flushBuf_ok (w : W) (h : w.flushBuf.2 = true) :
    w.flushBuf.1.disk = w.disk ++ w.buf ∧ w.flushBuf.1.buf = [] := by
  by_cases hr : (w.raw w.buf).2 = true
  · have := raw_ok w w.buf hr
    simp [W.flushBuf, hr, this]
  · simp [W.flushBuf, hr] at h

theorem writeAll_ok (w : W) (d : Bytes) (h : (w.writeAll d).2 = true) :
    (w.writeAll d).1.disk ++ (w.writeAll d).1.buf = w.disk ++ w.buf ++ d := by
  by_cases hc : w.buf.length + d.length > w.cap
  · by_cases hf : w.flushBuf.2 = true
    · have hfo := flushBuf_ok w hf
      by_cases hd : d.length ≥ w.flushBuf.1.cap
      · have h' : (w.flushBuf.1.raw d).2 = true := by simpa [W.writeAll, hc, hf, hd] using h
        have := raw_ok _ d h'
        simp [W.writeAll, hc, hf, hd, this, hfo]
      · simp [W.writeAll, hc, hf, hd, hfo]
    · simp [W.writeAll, hc, hf] at h
  · by_cases hd : d.length ≥ w.cap
    · have h' : (w.raw d).2 = true := by simpa [W.writeAll, hc, hd] using h
      have := raw_ok _ d h'
      have hb : w.buf = [] := List.length_eq_zero_iff.mp (by omega)
      have hlt : ¬ w.cap < d.length := by simp [hb] at hc; omega
      have hle : w.cap ≤ d.length := hd
      rw [hb] at this
      simp [W.writeAll, hb, hlt, hle, this]
    · simp [W.writeAll, hc, hd]

theorem flushBuf_nil (w : W) (h : w.buf = []) :
    w.flushBuf.1.disk = w.disk ∧ w.flushBuf.1.buf = [] := by
  simp [W.flushBuf, W.raw, h]

theorem step_frozen (s : S) (c : Cmd) (h : s.ok = false) : step s c = s := by simp [step, h]

def bytes (n : Nat) : Bytes := List.replicate n 7
/-- the unrepaired order (rename before the buffer is written) shows a partial final file at some instant -/
theorem old_partial_instant :
    let s := exec (init 10 1000) ((oldProg [bytes 3]).take 2)     -- after the write and the rename, before drop
    s.renamed = true ∧ s.w.disk ≠ (bytes 3) := by decide
/-- and with a budget the old program exits 0 with a truncated final file -/
theorem old_truncated_exit0 :
    let s := exec (init 10 2) (oldProg [bytes 3])
    s.ok = true ∧ s.renamed = true ∧ s.w.disk ≠ bytes 3 := by decide
end O
