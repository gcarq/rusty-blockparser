import Std.Data.HashMap
open Std
namespace B
abbrev Addr := String

/-- balances.rs on_complete: `*balances.entry(addr).or_insert(0) += value` over the unspent values -/
def stepBal (m : HashMap Addr Nat) (p : Addr × Nat) : HashMap Addr Nat := m.insert p.1 (m.getD p.1 0 + p.2)
def bal (m : HashMap Addr Nat) (l : List (Addr × Nat)) : HashMap Addr Nat := l.foldl stepBal m

def sumFor (a : Addr) : List (Addr × Nat) → Nat
  | [] => 0
  | p :: l => (if p.1 = a then p.2 else 0) + sumFor a l
def occurs (a : Addr) : List (Addr × Nat) → Bool
  | [] => false
  | p :: l => p.1 = a || occurs a l

def total (l : List (Addr × Nat)) : Nat := (l.map (·.2)).sum

/-- `occurs` and `sumFor` are `any` and the total of a `filter`: what holds of them under append or permutation is then a
    fact of the list library -/
theorem occurs_eq_any (a : Addr) (l : List (Addr × Nat)) : occurs a l = l.any (·.1 = a) := by
  induction l with
  | nil => rfl
  | cons p l ih => rw [occurs, ih, List.any_cons]

theorem sumFor_eq_total (a : Addr) (l : List (Addr × Nat)) : sumFor a l = total (l.filter (·.1 = a)) := by
  induction l with
  | nil => rfl
  | cons p l ih =>
    rw [sumFor, ih, List.filter_cons]
    split <;> simp [total, *]

theorem sumFor_zero (a : Addr) (l : List (Addr × Nat)) (h : occurs a l = false) : sumFor a l = 0 := by
  rw [occurs_eq_any, List.any_eq_false] at h
  rw [sumFor_eq_total, List.filter_eq_nil_iff.mpr h]; rfl

theorem bal_lookup (l : List (Addr × Nat)) : ∀ (m : HashMap Addr Nat) (a : Addr),
    (bal m l)[a]? = if occurs a l then some (m.getD a 0 + sumFor a l) else m[a]? := by
  induction l with
  | nil => intro m a; simp [bal, occurs]
  | cons p l ih =>
    intro m a
    have := ih (stepBal m p) a
    simp only [bal, List.foldl_cons] at this ⊢
    rw [this]
    by_cases hp : p.1 = a
    · subst hp
      simp [occurs, sumFor, stepBal]
      by_cases ho : occurs p.1 l = true
      · simp [ho, Nat.add_assoc]
      · have ho' : occurs p.1 l = false := by simpa using ho
        simp [ho', sumFor_zero p.1 l ho']
    · have hne : (p.1 == a) = false := by simpa using hp
      simp [occurs, sumFor, stepBal, hp, HashMap.getD_insert, HashMap.getElem?_insert, hne]

/-- C08: starting from the empty table, an address is listed iff it owns an unspent output, with the exact sum -/
theorem balances_spec (l : List (Addr × Nat)) (a : Addr) :
    (bal ∅ l)[a]? = if occurs a l then some (sumFor a l) else none := by
  simpa using bal_lookup l ∅ a

theorem total_insert (m : HashMap Addr Nat) (k : Addr) (v : Nat) :
    total (m.insert k v).toList = v + total (m.toList.filter (¬k == ·.1)) :=
  ((HashMap.toList_insert_perm (m := m) (k := k) (v := v)).map fun q : Addr × Nat => q.2).sum_nat

theorem total_step (m : HashMap Addr Nat) (p : Addr × Nat) : total (stepBal m p).toList = total m.toList + p.2 := by
  -- `total m.toList` is `m.getD p.1 0` plus the other bindings: rebinding a key to its own value changes nothing
  have h : total m.toList = m.getD p.1 0 + total (m.toList.filter (¬p.1 == ·.1)) := by
    rw [HashMap.getD_eq_getD_getElem?]
    cases hg : m[p.1]? with
    | none =>
      rw [List.filter_eq_self.mpr fun q hq => ?_]; exact (Nat.zero_add _).symm
      have := HashMap.mem_toList_iff_getElem?_eq_some.mp (show (q.1, q.2) ∈ m.toList from hq)
      simp only [decide_eq_true_eq, beq_iff_eq]
      intro e; rw [← e, hg] at this; cases this
    | some v =>
      rw [← total_insert, Option.getD_some]
      refine ((HashMap.Equiv.of_forall_getElem?_eq (m₁ := m.insert p.1 v) (m₂ := m) fun a => ?_).toList_perm.map fun q : Addr × Nat => q.2).sum_nat.symm
      rw [HashMap.getElem?_insert]; split
      · rename_i e; rw [← eq_of_beq e, hg]
      · rfl
  rw [stepBal, total_insert, h]; omega

/-- conservation: aggregation neither creates nor loses value -/
theorem total_bal (l : List (Addr × Nat)) : ∀ (m : HashMap Addr Nat), total (bal m l).toList = total m.toList + total l := by
  induction l with
  | nil => intro m; simp [bal, total]
  | cons p l ih =>
    intro m
    simp only [bal, List.foldl_cons] at ih ⊢
    rw [ih, total_step]
    simp only [total, List.map_cons, List.sum_cons]; omega

theorem total_bal_empty (l : List (Addr × Nat)) : total (bal ∅ l).toList = total l := by
  rw [total_bal]; simp [total]
end B
