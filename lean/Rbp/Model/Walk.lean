namespace Wk
abbrev Hash := List UInt8

structure Rec where
  hash : Hash
  prev : Hash
  height : Nat
  status : Nat
  file : Nat
  off : Nat
deriving DecidableEq

def find (l : List Rec) (h : Hash) : Option Rec := l.find? (fun r => r.hash == h)

/-- `while let Some(record) = cursor.and_then(|hash| records.remove(&hash))` -/
def walk : Nat → List Rec → Hash → List Rec
  | 0, _, _ => []
  | fuel+1, l, cur => match find l cur with
    | none => []
    | some r => r :: walk fuel (l.erase r) r.prev

theorem find_mem (l : List Rec) (hnd : (l.map (·.hash)).Nodup) (r : Rec) (hr : r ∈ l) : find l r.hash = some r := by
  induction l with
  | nil => cases hr
  | cons x xs ih =>
    have d := List.nodup_cons.mp hnd
    rcases List.mem_cons.mp hr with rfl | h
    · simp [find]
    · have : x.hash ≠ r.hash := fun e => d.1 (List.mem_map.mpr ⟨r, h, e.symm⟩)
      simpa [find, this] using ih d.2 h

theorem find_none (l : List Rec) (h : Hash) (hn : h ∉ l.map (·.hash)) : find l h = none :=
  List.find?_eq_none.mpr fun r hr hc => hn (List.mem_map.mpr ⟨r, hr, by simpa using hc⟩)

theorem walk_of_not_mem (fuel : Nat) (l : List Rec) (h : Hash) (hn : h ∉ l.map (·.hash)) : walk fuel l h = [] := by
  cases fuel <;> simp [walk, find_none l h hn]

theorem walk_of_mem (fuel : Nat) (l : List Rec) (hnd : (l.map (·.hash)).Nodup) (r : Rec) (hr : r ∈ l) :
    walk (fuel + 1) l r.hash = r :: walk fuel (l.erase r) r.prev := by
  simp [walk, find_mem l hnd r hr]

theorem not_mem_erase_hash {l : List Rec} {h : Hash} (r : Rec) (hn : h ∉ l.map (·.hash)) : h ∉ (l.erase r).map (·.hash) :=
  fun hm => hn ((List.erase_sublist.map _).subset hm)

/-- the active chain as a function of the height, `A k` for `k ≤ T` -/
structure Chain (A : Nat → Rec) (T : Nat) (l : List Rec) : Prop where
  mem : ∀ k, k ≤ T → A k ∈ l
  link : ∀ k, k < T → (A (k + 1)).prev = (A k).hash
  inj : ∀ i j, i ≤ T → j ≤ T → (A i).hash = (A j).hash → i = j
  root : (A 0).prev ∉ l.map (·.hash)

/-- the T + 1 records of a chain have distinct hashes, all in the table: the table is longer than T -/
theorem Chain.lt_length {A : Nat → Rec} {T : Nat} {recs : List Rec} (hchain : Chain A T recs) : T < recs.length := by
  have hinj : ((List.range (T + 1)).map (fun k => (A k).hash)).Nodup := by
    rw [List.nodup_iff_pairwise_ne, List.pairwise_map]
    refine List.nodup_range.imp_of_mem fun hi hj hij hh' => hij ?_
    exact hchain.inj _ _ (Nat.lt_succ_iff.mp (List.mem_range.mp hi)) (Nat.lt_succ_iff.mp (List.mem_range.mp hj)) hh'
  have hsubset : (List.range (T + 1)).map (fun k => (A k).hash) ⊆ recs.map (·.hash) := by
    intro x hx
    obtain ⟨k, hk, rfl⟩ := List.mem_map.mp hx
    exact List.mem_map_of_mem (hchain.mem k (Nat.lt_succ_iff.mp (List.mem_range.mp hk)))
  have := List.Nodup.length_le_of_subset hinj hsubset
  rwa [List.length_map, List.length_map, List.length_range] at this

theorem Chain.erase_top {A : Nat → Rec} {k : Nat} {l : List Rec} (hc : Chain A (k + 1) l) : Chain A k (l.erase (A (k + 1))) where
  mem j hj := (List.mem_erase_of_ne fun h => by have := hc.inj j (k + 1) (by omega) (Nat.le_refl _) (by rw [h]); omega).mpr
    (hc.mem j (by omega))
  link j hj := hc.link j (by omega)
  inj i j hi hj := hc.inj i j (by omega) (by omega)
  root := not_mem_erase_hash _ hc.root

/-- C04 (repaired): walking prev-links from the tip of a well-formed chain yields the chain, top down,
    whatever other records (stale, failed, reorged-out, …) are in the table -/
theorem walk_chain (A : Nat → Rec) : ∀ (k : Nat) (l : List Rec) (fuel : Nat),
    (l.map (·.hash)).Nodup → Chain A k l → k < fuel →
    walk fuel l (A k).hash = (List.range (k + 1)).reverse.map A := by
  intro k
  induction k with
  | zero =>
    intro l fuel hnd hc hf
    obtain ⟨fuel, rfl⟩ := Nat.exists_eq_succ_of_ne_zero (Nat.ne_zero_of_lt hf)
    rw [walk_of_mem fuel l hnd _ (hc.mem 0 (Nat.le_refl _)), walk_of_not_mem _ _ _ (not_mem_erase_hash _ hc.root)]
    rfl
  | succ k ih =>
    intro l fuel hnd hc hf
    obtain ⟨fuel, rfl⟩ := Nat.exists_eq_succ_of_ne_zero (Nat.ne_zero_of_lt hf)
    rw [walk_of_mem fuel l hnd _ (hc.mem (k + 1) (Nat.le_refl _)), hc.link k (Nat.lt_succ_self k),
      ih _ fuel (hnd.sublist (List.erase_sublist.map _)) hc.erase_top (by omega), List.range_succ (n := k + 1), List.reverse_append]
    rfl
end Wk
