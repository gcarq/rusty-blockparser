import Rbp.Model.Wire
import Rbp.Model.Script
namespace Csv
open W

structure RHeader where
  version : Nat
  prev : Bytes
  merkle : Bytes
  time : Nat
  bits : Nat
  nonce : Nat

def readHeader : P RHeader := fun bs => do
  let (v, bs) ← readLE 4 bs
  let (p, bs) ← take 32 bs
  let (m, bs) ← take 32 bs
  let (t, bs) ← readLE 4 bs
  let (b, bs) ← readLE 4 bs
  let (n, bs) ← readLE 4 bs
  pure (⟨v, p, m, t, b, n⟩, bs)
def RHeader.toBytes (h : RHeader) : Bytes := toLE 4 h.version ++ h.prev ++ h.merkle ++ toLE 4 h.time ++ toLE 4 h.bits ++ toLE 4 h.nonce

structure RBlock where
  header : RHeader
  txCount : VarUint
  txs : List RTx

/-- `read_block` for a coin without AuxPoW -/
def readBlock : P RBlock := fun bs => do
  let (h, bs) ← readHeader bs
  let (c, bs) ← readVarUint bs
  let (txs, bs) ← readN readTx c.value bs
  pure (⟨h, c, txs⟩, bs)

def hashHex (h : Bytes) : String := Sha.hex h.reverse

/-- csvdump rows of one block: (blocks, transactions, tx_in, tx_out) -/
def rows (ver : UInt8) (size height : Nat) (b : RBlock) : String × List String × List String × List String :=
  let bh := hashHex (A.sha256d b.header.toBytes)
  let blockRow := s!"{bh};{height};{b.header.version};{size};{hashHex b.header.prev};{hashHex b.header.merkle};{b.header.time};{b.header.bits};{b.header.nonce}"
  let per := b.txs.map fun t =>
    let txid := hashHex (A.sha256d t.toBytes)
    (s!"{txid};{bh};{t.version};{t.lock}",
     t.ins.map (fun i => s!"{txid};{hashHex i.prev};{i.idx};{Sha.hex i.script};{i.seq}"),
     (List.range t.outs.length).zip t.outs |>.map (fun (k, o) =>
        s!"{txid};{k};{o.value};{Sha.hex o.script};{((S.eval ver o.script).address).getD ""}"))
  (blockRow, per.map (·.1), per.flatMap (·.2.1), per.flatMap (·.2.2))
end Csv
