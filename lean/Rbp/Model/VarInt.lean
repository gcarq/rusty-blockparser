namespace VI
inductive Res where
  | ok (n : Nat) (rest : List UInt8)
  | eof
  | panic
deriving Repr, DecidableEq

/-- model of index.rs read_varint: acc is `n` at loop head; 144115188075855871 = u64::MAX >> 7 -/
def dec (acc : Nat) : List UInt8 → Res
  | [] => .eof
  | ch :: rest =>
    if acc > 144115188075855871 then .panic
    else
      let n := acc * 128 + ch.toNat % 128
      if ch.toNat ≥ 128 then
        if n = 18446744073709551615 then .panic else dec (n + 1) rest
      else .ok n rest

def encCont (m : Nat) : List UInt8 :=
  if h : m < 128 then [UInt8.ofNat (128 + m)]
  else encCont (m / 128 - 1) ++ [UInt8.ofNat (128 + m % 128)]
termination_by m
decreasing_by omega

def enc (n : Nat) : List UInt8 :=
  if n < 128 then [UInt8.ofNat n] else encCont (n / 128 - 1) ++ [UInt8.ofNat (n % 128)]

/-- a continuation byte and a final byte: one step of `dec` each, with the accumulated value `n` named by the caller -/
theorem dec_more {acc d n : Nat} (t : List UInt8) (hd : d < 128) (hn : acc * 128 + d = n) (ha : n < 18446744073709551615) :
    dec acc (UInt8.ofNat (128 + d) :: t) = dec (n + 1) t := by
  subst hn
  have h1 : ¬ acc > 144115188075855871 := by omega
  have h2 : (128 + d) % 128 = d := by omega
  simp only [dec, UInt8.toNat_ofNat_of_lt' (by omega : 128 + d < 256), h1, h2, if_false, Nat.ne_of_lt ha, ge_iff_le, Nat.le_add_right, if_true]

theorem dec_last {acc d n : Nat} (t : List UInt8) (hd : d < 128) (hn : acc * 128 + d = n) (ha : acc ≤ 144115188075855871) :
    dec acc (UInt8.ofNat d :: t) = .ok n t := by
  subst hn
  have h1 : ¬ acc > 144115188075855871 := by omega
  have h2 : ¬ d ≥ 128 := by omega
  simp only [dec, UInt8.toNat_ofNat_of_lt' (by omega : d < 256), h1, h2, if_false, Nat.mod_eq_of_lt hd]

theorem dec_encCont (m : Nat) (t : List UInt8) (hm : m < 144115188075855871) :
    dec 0 (encCont m ++ t) = dec (m + 1) t := by
  induction m using Nat.strongRecOn generalizing t with
  | _ m ih =>
    rw [encCont]
    split
    · next h => exact dec_more t h (by omega) (by omega)
    · rw [List.append_assoc, ih _ (by omega) _ (by omega)]
      exact dec_more t (Nat.mod_lt _ (by decide)) (by omega) (by omega)

theorem dec_enc (n : Nat) (t : List UInt8) (hn : n ≤ 18446744073709551615) :
    dec 0 (enc n ++ t) = .ok n t := by
  rw [enc]
  split
  · next h => exact dec_last t h (by omega) (by omega)
  · rw [List.append_assoc, dec_encCont _ _ (by omega)]
    exact dec_last t (Nat.mod_lt _ (by decide)) (by omega) (by omega)
end VI
