import Rbp.Model.VarInt
import Rbp.Model.Merkle
import Rbp.Model.Xor
import Rbp.Model.Driver
import Rbp.Model.Utxo
import Rbp.Model.Balances
import Rbp.Model.Output
import Rbp.Model.Par
import Rbp.Model.Block
import Rbp.Model.Index
import Rbp.Model.Walk
import Rbp.Model.AuxPow
import Rbp.Model.Callbacks
import Rbp.Proofs.Templates
import Rbp.Proofs.Base58
import Rbp.Proofs.Bech32Check
import Rbp.Spec.PushRules
