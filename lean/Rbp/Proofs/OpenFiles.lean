import Rbp.Proofs.Driver
import Rbp.Proofs.Index
/-!
# C17 on the executed model: which blk files can be open, and the constant bound for disjoint height spans

The index maps pairwise distinct heights to records, and `maxHeightByBlk` is a running maximum over it.  One invariant of the
open list, `Spans`, is kept by every pass of the loop (`book_spans`); `OpenInv` and the at-most-one bound are read off it.
-/
namespace Run
open Wk CB Order

theorem insertHeight_nodup (m : List (Nat × Rec)) (r : Rec) (h : (m.map (·.1)).Nodup) :
    ((insertHeight m r).map (·.1)).Nodup :=
  nodup_cons_filter (·.1) (r.height, r) m _ (fun y hy => by simpa using hy) h

theorem foldl_insertHeight_nodup (l : List Rec) : ∀ (m : List (Nat × Rec)), (m.map (·.1)).Nodup →
    ((l.foldl insertHeight m).map (·.1)).Nodup := by
  induction l with
  | nil => intro m h; exact h
  | cons r l ih => intro m h; exact ih _ (insertHeight_nodup m r h)

theorem buildIndex_nodup (kvs : List (W.Bytes × W.Bytes)) (idx : List (Nat × Rec)) (h : buildIndex kvs = .ok idx) :
    (idx.map (·.1)).Nodup := by
  unfold buildIndex at h
  split at h
  · split at h <;> cases h
    · exact List.nodup_nil
    · exact foldl_insertHeight_nodup _ [] List.nodup_nil
  · cases h
  · cases h

theorem loadIndex_nodup {o : Opts} {kvs : List (W.Bytes × W.Bytes)} {ld : Loaded} (h : loadIndex o kvs = .ok ld) :
    (ld.full.map (·.1)).Nodup :=
  buildIndex_nodup kvs _ (loadIndex_ok h).1

theorem loadIndex_sub {o : Opts} {kvs : List (W.Bytes × W.Bytes)} {ld : Loaded} (h : loadIndex o kvs = .ok ld)
    (k : Nat) (r : Rec) (hk : lookup ld.trimmed k = some r) : lookup ld.full k = some r := by
  rw [loadIndex_lookup h] at hk
  split at hk
  · exact hk
  · cases hk

def mhbStep (f : Nat) (a : Option Nat) (p : Nat × Rec) : Option Nat :=
  if p.2.file = f then (match a with | none => some p.1 | some m => some (max m p.1)) else a

theorem maxHeightByBlk_eq (idx : List (Nat × Rec)) (f : Nat) : maxHeightByBlk idx f = idx.foldl (mhbStep f) none := rfl

theorem maxHeightByBlk_isMax (idx : List (Nat × Rec)) (f : Nat) :
    IsMax (fun a b : Nat => decide (a < b)) ((idx.filter (·.2.file = f)).map (·.1)) (maxHeightByBlk idx f) := by
  have := isMax_foldl (lt := fun a b : Nat => decide (a < b))
    (f := fun a h => match a with | none => some h | some m => some (max m h)) (fun _ => rfl)
    (fun m h => by by_cases c : m < h <;> simp [c, Nat.max_def] <;> omega) (by simp) (fun a b c => by simpa using Nat.lt_trans)
    ((idx.filter (·.2.file = f)).map (·.1)) [] none fun _ => List.not_mem_nil
  rw [List.foldl_map, List.foldl_filter, List.nil_append] at this
  simp only [decide_eq_true_eq] at this
  exact this

theorem maxHeightByBlk_ge {idx : List (Nat × Rec)} {h : Nat} {r : Rec} (hm : (h, r) ∈ idx) :
    ∃ m, maxHeightByBlk idx r.file = some m ∧ h ≤ m := by
  have hin : h ∈ (idx.filter (·.2.file = r.file)).map (·.1) := List.mem_map.mpr ⟨_, List.mem_filter.mpr ⟨hm, by simp⟩, rfl⟩
  have := maxHeightByBlk_isMax idx r.file
  generalize maxHeightByBlk idx r.file = x at this ⊢
  cases x with
  | none => exact absurd hin (this _)
  | some m => exact ⟨m, rfl, Nat.le_of_not_lt (of_decide_eq_false (this.2 h hin))⟩

theorem maxHeightByBlk_attained {idx : List (Nat × Rec)} {f m : Nat} (e : maxHeightByBlk idx f = some m) :
    ∃ r, (m, r) ∈ idx ∧ r.file = f := by
  have := maxHeightByBlk_isMax idx f
  rw [e] at this
  obtain ⟨p, hp, rfl⟩ := List.mem_map.mp this.1
  exact ⟨p.2, (List.mem_filter.mp hp).1, by simpa using (List.mem_filter.mp hp).2⟩

/-- every open file still holds a block at or above `next` -/
def OpenInv (full : List (Nat × Rec)) (next : Nat) (opened : List Nat) : Prop :=
  ∀ f ∈ opened, ∃ m, maxHeightByBlk full f = some m ∧ next ≤ m

/-- no duplicates, and the height span of every open file contains `next` -/
def Spans (full : List (Nat × Rec)) (next : Nat) (O : List Nat) : Prop :=
  O.Nodup ∧ ∀ f ∈ O, (∃ h r, h ≤ next ∧ (h, r) ∈ full ∧ r.file = f) ∧ (∃ h r, next ≤ h ∧ (h, r) ∈ full ∧ r.file = f)

theorem Spans.sublist {full : List (Nat × Rec)} {h : Nat} {O O' : List Nat} (inv : Spans full h O) (hs : O'.Sublist O) :
    Spans full h O' :=
  ⟨inv.1.sublist hs, fun f hf => inv.2 f (hs.subset hf)⟩

section
variable (coin : Coin) (o : Opts) (key : Option W.Bytes) (files : List (Nat × BlkFile)) (full trimmed : List (Nat × Rec))
  (hnd : (full.map (·.1)).Nodup) (hsub : ∀ h r, lookup trimmed h = some r → lookup full h = some r)
include hnd hsub

theorem book_spans (h : Nat) (s : List Nat × List Ev) (inv : Spans full h s.1) :
    Spans full h (book coin key files full trimmed h s).1 ∧
    ∀ b, serve coin o key files trimmed h = .ok b → Spans full (h + 1) (book coin key files full trimmed h s).1 := by
  unfold book serve
  cases hl : lookup trimmed h with
  | none => exact ⟨inv, fun b hb => by cases hb⟩
  | some r =>
    have hmem : (h, r) ∈ full := (lookup_iff_mem full hnd h r).mp (hsub h r hl)
    dsimp only [Option.map_some]
    cases fetch coin key files r with
    | none => exact ⟨inv, fun b hb => by cases hb⟩
    | some x =>
      have inv1 : Spans full h (if s.1.contains r.file then s.1 else r.file :: s.1) := by
        split
        · exact inv
        · next hc =>
          refine ⟨List.nodup_cons.mpr ⟨fun hin => hc (List.contains_iff_mem.mpr hin), inv.1⟩, fun f hf => ?_⟩
          rcases List.mem_cons.mp hf with rfl | hf
          · exact ⟨⟨h, r, Nat.le_refl _, hmem, rfl⟩, ⟨h, r, Nat.le_refl _, hmem, rfl⟩⟩
          · exact inv.2 f hf
      generalize (if s.1.contains r.file then s.1 else r.file :: s.1) = O₁ at inv1 ⊢
      cases x with
      | err m => exact ⟨inv1, fun b hb => by cases hb⟩
      | panic m => exact ⟨inv1, fun b hb => by cases hb⟩
      | ok p =>
        obtain ⟨mr, hmr, hle⟩ := maxHeightByBlk_ge hmem
        rw [hmr]
        have hs : (if decide (h ≥ mr) = true then O₁.filter (· ≠ r.file) else O₁).Sublist O₁ := by
          split
          · exact List.filter_sublist
          · exact List.Sublist.refl _
        refine ⟨inv1.sublist hs, fun _ _ => ⟨(inv1.sublist hs).1, fun g hg => ?_⟩⟩
        obtain ⟨⟨l, rl, hl1, hl2, hl3⟩, u, ru, hu1, hu2, hu3⟩ := inv1.2 g (hs.subset hg)
        refine ⟨⟨l, rl, by omega, hl2, hl3⟩, ?_⟩
        by_cases hgr : g = r.file
        · -- still open after the pass: not closed, so its greatest height lies above `h`
          subst hgr
          have hlt : h < mr := Nat.lt_of_not_le fun hge => by
            rw [if_pos (decide_eq_true hge)] at hg
            exact absurd rfl (of_decide_eq_true (List.mem_filter.mp hg).2)
          obtain ⟨r', hr', hf'⟩ := maxHeightByBlk_attained hmr
          exact ⟨mr, r', hlt, hr', hf'⟩
        · -- another file: its block at or above `h` is not the one at `h`, which is `r`
          refine ⟨u, ru, Nat.lt_of_le_of_ne hu1 fun e => ?_, hu2, hu3⟩
          subst e
          exact hgr (hu3.symm.trans (congrArg (·.2.file) (eq_of_key_eq (·.1) full hnd _ hu2 _ hmem rfl)))

/-- **C17 on the executed model.**  In every state the driver loop can stop in (all heights done, a gap, an error at some
    height) the invariant holds at the next height to deliver -/
theorem driveLoop_spans : ∀ (n h : Nat) (opened : List Nat) (acc : List EBlock) (evs : List Ev), Spans full h opened →
    Spans full (h + (scan (serve coin o key files trimmed) h n).1.length)
      (driveLoop coin o key files full trimmed h n opened acc evs).openSet
  | 0, _, _, _, _, inv => by simpa [driveLoop, scan] using inv
  | n + 1, h, opened, acc, evs, inv => by
    obtain ⟨h1, h2⟩ := book_spans coin o key files full trimmed hnd hsub h (opened, evs) inv
    rw [driveLoop_succ, scan]
    cases hs : serve coin o key files trimmed h with
    | error e => simpa using h1
    | ok b =>
      have := driveLoop_spans n (h + 1) _ (b :: acc) (book coin key files full trimmed h (opened, evs)).2 (h2 b hs)
      rwa [Nat.add_right_comm, Nat.add_assoc] at this
end

/-- the files of an index occupy pairwise disjoint height spans -/
def DisjointSpans (full : List (Nat × Rec)) : Prop :=
  ∀ p q p' q', p ∈ full → q ∈ full → p' ∈ full → q' ∈ full → p.2.file = p'.2.file → q.2.file = q'.2.file →
    p.2.file ≠ q.2.file → p.1 < q.1 → p'.1 < q'.1

theorem Spans.openInv {full : List (Nat × Rec)} {next : Nat} {O : List Nat} (inv : Spans full next O) : OpenInv full next O :=
  fun f hf =>
    let ⟨_, _, _, hu, hm, hr⟩ := inv.2 f hf
    let ⟨m, e, hle⟩ := maxHeightByBlk_ge hm
    ⟨m, hr ▸ e, Nat.le_trans hu hle⟩

theorem Spans.length_le_one {full : List (Nat × Rec)} {next : Nat} {O : List Nat} (inv : Spans full next O)
    (hnd : (full.map (·.1)).Nodup) (hdis : DisjointSpans full) : O.length ≤ 1 := by
  match O, inv with
  | [], _ => exact Nat.zero_le _
  | [_], _ => exact Nat.le_refl _
  | f :: g :: _, ⟨hn, span⟩ =>
    exfalso
    have hne : f ≠ g := fun e => (List.nodup_cons.mp hn).1 (e ▸ List.mem_cons_self ..)
    obtain ⟨⟨lf, rlf, hlf, mlf, flf⟩, ⟨uf, ruf, huf, muf, fuf⟩⟩ := span f (List.mem_cons_self ..)
    obtain ⟨⟨lg, rlg, hlg, mlg, flg⟩, ⟨ug, rug, hug, mug, fug⟩⟩ := span g (List.mem_cons_of_mem _ (List.mem_cons_self ..))
    -- lf ≤ next ≤ ug; were lf < ug, every block of f would lie below every block of g, but lg ≤ next ≤ uf
    rcases Nat.lt_or_ge lf ug with h1 | h1
    · have := hdis (lf, rlf) (ug, rug) (uf, ruf) (lg, rlg) mlf mug muf mlg (flf.trans fuf.symm) (fug.trans flg.symm)
        (fun e => hne (flf.symm.trans (e.trans fug))) h1
      exact absurd (show uf < lg from this) (by omega)
    · obtain rfl : lf = ug := by omega
      exact hne (flf.symm.trans (congrArg (·.2.file) (eq_of_key_eq (·.1) full hnd _ mlf _ mug rfl) |>.trans fug))
end Run
