import Rbp.Model.Run
import Rbp.Proofs.Order
/-!
# The order in which the model visits the block index is the key order, and nothing else

`sortKvs` is the model's stand-in for rusty-leveldb's iterator (bytewise comparator): `lexLt` is core's lexicographic `<` on byte
lists, hence a strict total order; the result of `sortKvs` is a permutation of the pairs, ascending in it, and therefore — for an
index whose keys are pairwise distinct, as a LevelDB's are — the visiting order does not depend on the order in which the pairs
were handed over (the order of the `.ldb`/`.log` files, of compaction levels, of the harness's dump).  The tip is chosen by a
running maximum in `tipLt`, the `(height, hash)` order: the same facts give that it does not depend on the table order either.
-/
namespace Run
open W Order

theorem lexLt_iff : ∀ {a b : Bytes}, lexLt a b = true ↔ a < b
  | [], [] => by simp [lexLt]
  | [], _ :: _ => by simp [lexLt]
  | _ :: _, [] => by simp [lexLt]
  | a :: as, b :: bs => by
    rw [lexLt, List.cons_lt_cons_iff, ← lexLt_iff (a := as)]
    by_cases h : a < b
    · simp [h]
    · by_cases h' : b < a
      · simp [h, h', (UInt8.ne_of_lt h').symm]
      · simp [UInt8.le_antisymm (UInt8.not_lt.mp h') (UInt8.not_lt.mp h)]

theorem lexLt_eq_false {a b : Bytes} : lexLt a b = false ↔ b ≤ a := by
  rw [← Bool.not_eq_true, lexLt_iff]; exact List.not_lt

theorem lexLt_irrefl (a : Bytes) : lexLt a a = false := lexLt_eq_false.mpr (List.le_refl a)

theorem lexLt_asymm : ∀ (a b : Bytes), lexLt a b = true → lexLt b a = false
  | _, _, h => lexLt_eq_false.mpr (List.le_of_lt (lexLt_iff.mp h))

theorem lexLt_trans : ∀ (a b c : Bytes), lexLt a b = true → lexLt b c = true → lexLt a c = true
  | _, _, _, h1, h2 => lexLt_iff.mpr (List.lt_trans (lexLt_iff.mp h1) (lexLt_iff.mp h2))

theorem lexLt_total : ∀ (a b : Bytes), lexLt a b = false → lexLt b a = false → a = b
  | _, _, h1, h2 => List.le_antisymm (lexLt_eq_false.mp h2) (lexLt_eq_false.mp h1)

theorem keyLt_strictTotal : StrictTotalOn (fun x y : Bytes × Bytes => lexLt x.1 y.1) (·.1) :=
  ⟨fun _ => lexLt_irrefl _, fun _ _ _ => lexLt_trans _ _ _, fun _ _ => lexLt_total _ _⟩

theorem insertSorted_perm (kv : Bytes × Bytes) : ∀ l, (insertSorted kv l).Perm (kv :: l)
  | [] => List.Perm.refl _
  | x :: xs => by
    unfold insertSorted
    split
    · exact List.Perm.refl _
    · exact ((insertSorted_perm kv xs).cons x).trans (List.Perm.swap kv x xs)

theorem sortKvs_perm : ∀ l : List (Bytes × Bytes), (sortKvs l).Perm l
  | [] => List.Perm.refl _
  | x :: xs => (insertSorted_perm x _).trans ((sortKvs_perm xs).cons x)

/-- ascending by key (ties allowed) -/
def KeySorted (l : List (Bytes × Bytes)) : Prop := l.Pairwise (fun x y => lexLt y.1 x.1 = false)

theorem insertSorted_sorted (kv : Bytes × Bytes) : ∀ l, KeySorted l → KeySorted (insertSorted kv l)
  | [], _ => List.pairwise_singleton _ _
  | x :: xs, h => by
    have hx := List.pairwise_cons.mp h
    unfold insertSorted
    split
    · rename_i hlt
      -- `kv < x`, and `x` is below the rest
      refine List.pairwise_cons.mpr ⟨fun y hy => ?_, h⟩
      rcases List.mem_cons.mp hy with rfl | hy
      · exact lexLt_asymm _ _ hlt
      · exact Bool.eq_false_iff.mpr fun hyk => Bool.eq_false_iff.mp (hx.1 y hy) (lexLt_trans _ _ _ hyk hlt)
    · rename_i hge
      refine List.pairwise_cons.mpr ⟨fun y hy => ?_, insertSorted_sorted kv xs hx.2⟩
      rcases List.mem_cons.mp ((insertSorted_perm kv xs).mem_iff.mp hy) with rfl | hy
      · exact Bool.eq_false_iff.mpr hge
      · exact hx.1 y hy

theorem sortKvs_sorted : ∀ l : List (Bytes × Bytes), KeySorted (sortKvs l)
  | [] => List.Pairwise.nil
  | x :: xs => insertSorted_sorted x _ (sortKvs_sorted xs)

theorem sortKvs_order_independent (l₁ l₂ : List (Bytes × Bytes)) (hp : l₁.Perm l₂) (hd : (l₁.map (·.1)).Nodup) :
    sortKvs l₁ = sortKvs l₂ :=
  keyLt_strictTotal.sorted_unique ((sortKvs_perm l₁).trans (hp.trans (sortKvs_perm l₂).symm))
    (((sortKvs_perm l₁).map _).nodup_iff.mpr hd) (sortKvs_sorted l₁) (sortKvs_sorted l₂)

theorem strict_of_sorted_nodup (l : List (Bytes × Bytes)) (hs : KeySorted l) (hd : (l.map (·.1)).Nodup) :
    l.Pairwise (fun x y => lexLt x.1 y.1 = true) := by
  refine (List.pairwise_map.mp hd).imp₂ (fun x y hne hyx => ?_) hs
  exact Bool.not_eq_false _ ▸ fun hxy => hne (lexLt_total _ _ hxy hyx)

theorem strictSorted_unique : ∀ (l₁ l₂ : List (Bytes × Bytes)),
    l₁.Pairwise (fun x y => lexLt x.1 y.1 = true) → l₂.Pairwise (fun x y => lexLt x.1 y.1 = true) →
    (∀ p, p ∈ l₁ ↔ p ∈ l₂) → l₁ = l₂ := by
  intro l₁ l₂ h1 h2 h
  -- strictly ascending lists have distinct keys, so they are permutations of each other, and they are ascending
  have ne : ∀ l : List (Bytes × Bytes), l.Pairwise (fun x y => lexLt x.1 y.1 = true) → l.Pairwise (fun x y => x.1 ≠ y.1) :=
    fun l hl => hl.imp fun hxy e => by rw [e, lexLt_irrefl] at hxy; cases hxy
  have nd : ∀ l : List (Bytes × Bytes), l.Pairwise (fun x y => x.1 ≠ y.1) → l.Nodup := fun l hl => hl.imp fun hne e => hne (congrArg Prod.fst e)
  exact keyLt_strictTotal.sorted_unique ((List.perm_ext_iff_of_nodup (nd _ (ne _ h1)) (nd _ (ne _ h2))).mpr h)
    (List.pairwise_map.mpr (ne _ h1)) (h1.imp (lexLt_asymm _ _)) (h2.imp (lexLt_asymm _ _))

theorem collect_order_independent (l₁ l₂ : List (Bytes × Bytes)) (hp : l₁.Perm l₂) (hd : (l₁.map (·.1)).Nodup) :
    collect l₁ = collect l₂ := by
  unfold collect; rw [sortKvs_order_independent l₁ l₂ hp hd]

theorem run_congr_collect (o : Opts) (key : Option Bytes) {l₁ l₂ : List (Bytes × Bytes)} (files : List BlkFile)
    (h : collect l₁ = collect l₂) : run o key l₁ files = run o key l₂ files := by
  unfold run loadIndex buildIndex; rw [h]

theorem main_order_independent (o : Opts) (key : Option Bytes) (l₁ l₂ : List (Bytes × Bytes)) (files : List BlkFile)
    (hp : l₁.Perm l₂) (hd : (l₁.map (·.1)).Nodup) : main o key l₁ files = main o key l₂ files := by
  unfold main; rw [run_congr_collect o key files (collect_order_independent l₁ l₂ hp hd)]

theorem tipLt_iff {a b : Wk.Rec} : tipLt a b = true ↔ a.height < b.height ∨ a.height = b.height ∧ a.hash < b.hash := by
  simp [tipLt, lexLt_iff]

theorem tipLt_of_height_lt {a b : Wk.Rec} (h : a.height < b.height) : tipLt a b = true := by simp [tipLt, h]

theorem tipLt_irrefl (a : Wk.Rec) : tipLt a a = false := by
  simp [tipLt, lexLt_irrefl]

theorem tipLt_trans (a b c : Wk.Rec) (h1 : tipLt a b = true) (h2 : tipLt b c = true) : tipLt a c = true := by
  rw [tipLt_iff] at h1 h2 ⊢
  rcases h1 with h1 | ⟨e1, l1⟩ <;> rcases h2 with h2 | ⟨e2, l2⟩ <;> try (left; omega)
  exact Or.inr ⟨e1.trans e2, List.lt_trans l1 l2⟩

theorem tipLt_total (a b : Wk.Rec) (h1 : tipLt a b = false) (h2 : tipLt b a = false) : a.height = b.height ∧ a.hash = b.hash := by
  rw [← Bool.not_eq_true, tipLt_iff] at h1 h2
  have hh : a.height = b.height := by omega
  exact ⟨hh, List.le_antisymm (fun h => h2 (Or.inr ⟨hh.symm, h⟩)) (fun h => h1 (Or.inr ⟨hh, h⟩))⟩

theorem tipLt_strictTotal : StrictTotalOn tipLt (·.hash) :=
  ⟨tipLt_irrefl, tipLt_trans, fun a b h1 h2 => (tipLt_total a b h1 h2).2⟩

theorem tipLt_asymm (a b : Wk.Rec) (h : tipLt a b = true) : tipLt b a = false :=
  tipLt_strictTotal.asymm a b h

theorem eq_of_hash_eq : ∀ (l : List Wk.Rec), (l.map (·.hash)).Nodup → ∀ a ∈ l, ∀ b ∈ l, a.hash = b.hash → a = b :=
  eq_of_key_eq _

theorem tip_isMax_foldl {f : Option Wk.Rec → Wk.Rec → Option Wk.Rec} (hn : ∀ r, f none r = some r)
    (hs : ∀ b r, f (some b) r = if tipLt b r then some r else some b) (l seen : List Wk.Rec) (best : Option Wk.Rec)
    (h : IsMax tipLt seen best) : IsMax tipLt (seen ++ l) (l.foldl f best) :=
  isMax_foldl hn hs tipLt_irrefl tipLt_trans l seen best h

theorem pickTip_of_greatest (t : Wk.Rec) : ∀ (l : List Wk.Rec) (best : Option Wk.Rec),
    (best = some t ∨ (t ∈ l ∧ ∀ b, best = some b → tipLt b t = true)) →
    validScripts t = true →
    (∀ r ∈ l, validScripts r = true → r = t ∨ tipLt r t = true) →
    (l.filter validScripts).foldl (fun best r => match best with
      | none => some r
      | some b => if tipLt b r then some r else some b) best = some t := by
  intro l best h hv hall
  -- the fold ends on a maximum of `best` and the validated records; `t` is among them and beats all the others
  refine (tip_isMax_foldl (fun _ => rfl) (fun _ _ => rfl) _ _ best (IsMax.start tipLt_irrefl best)).eq_some_of_greatest ?_ ?_
  · rcases h with rfl | ⟨hm, _⟩
    · simp
    · exact List.mem_append_right _ (List.mem_filter.mpr ⟨hm, hv⟩)
  · intro r hr
    rcases List.mem_append.mp hr with hr | hr
    · rcases h with rfl | ⟨_, hb⟩
      · exact Or.inl (by simpa using hr)
      · exact Or.inr (hb r (by simpa [Option.mem_toList] using hr))
    · exact hall r (List.mem_filter.mp hr).1 (List.mem_filter.mp hr).2

theorem pickTip_isMax (l : List Wk.Rec) : IsMax tipLt (l.filter validScripts) (pickTip l) :=
  tip_isMax_foldl (fun _ => rfl) (fun _ _ => rfl) _ [] none (fun _ => List.not_mem_nil)

theorem pickTip_sound (l : List Wk.Rec) :
    (∀ t, pickTip l = some t → t ∈ l ∧ validScripts t = true ∧ ∀ r ∈ l, validScripts r = true → tipLt t r = false) ∧
    (pickTip l = none → ∀ r ∈ l, validScripts r = false) :=
  (isMax_filter _ _ _).mp (pickTip_isMax l)

theorem pickTip_fold_sound : ∀ (l seen : List Wk.Rec) (best : Option Wk.Rec),
    (∀ b, best = some b → b ∈ seen ∧ validScripts b = true ∧ ∀ r ∈ seen, validScripts r = true → tipLt b r = false) →
    (best = none → ∀ r ∈ seen, validScripts r = false) →
    ∀ t, (l.filter validScripts).foldl (fun best r => match best with
      | none => some r
      | some b => if tipLt b r then some r else some b) best = t →
    (∀ b, t = some b → b ∈ seen ++ l ∧ validScripts b = true ∧ ∀ r ∈ seen ++ l, validScripts r = true → tipLt b r = false) ∧
    (t = none → ∀ r ∈ seen ++ l, validScripts r = false) := by
  intro l seen best hs hn t ht
  rw [← isMax_filter, List.filter_append, ← ht]
  exact tip_isMax_foldl (fun _ => rfl) (fun _ _ => rfl) _ _ best ((isMax_filter _ _ _).mpr ⟨hs, hn⟩)

theorem pickTip_greatest (t : Wk.Rec) (l : List Wk.Rec) (hm : t ∈ l) (hv : validScripts t = true)
    (hall : ∀ r ∈ l, validScripts r = true → r = t ∨ tipLt r t = true) : pickTip l = some t :=
  pickTip_of_greatest t l none (Or.inr ⟨hm, fun _ h => by cases h⟩) hv hall

theorem pickTip_perm (l₁ l₂ : List Wk.Rec) (hp : l₁.Perm l₂) (hd : (l₁.map (·.hash)).Nodup) : pickTip l₁ = pickTip l₂ := by
  refine (pickTip_isMax l₁).unique (fun a ha b hb => tipLt_strictTotal.eq_of_not_lt hd (List.mem_filter.mp ha).1 (List.mem_filter.mp hb).1) ?_
  exact (isMax_congr (fun x => (hp.filter _).mem_iff) _).mpr (pickTip_isMax l₂)
end Run
