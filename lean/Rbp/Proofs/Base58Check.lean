import Rbp.Model.Addr
import Rbp.Proofs.Base58
import Rbp.Proofs.Alphabet
/-!
# Base58Check: every address the model prints decodes to its payload, with a valid checksum (C05, C06)

`A.base58` / `A.base58check` are the executed encoders.  The reference decoder below is the textbook one: map characters
to digit values, convert base 58 → base 256 keeping leading zeros, split off the last four bytes and compare them with the
double-SHA256 of the rest.
-/
namespace A

def b58val (c : Char) : Option Nat := b58chars.toList.findIdx? (· == c)

def base58Decode (s : String) : Option Bytes :=
  (s.toList.mapM b58val).map fun ds => (B58.decode ds).map UInt8.ofNat

def base58checkDecode (s : String) : Option Bytes :=
  (base58Decode s).bind fun bs =>
    if bs.length < 4 then none
    else if (sha256d (bs.take (bs.length - 4))).take 4 = bs.drop (bs.length - 4) then some (bs.take (bs.length - 4)) else none

theorem digits58_eq (n : Nat) (acc : List Nat) : digits58 n acc = B58.toBE 58 (by omega) n ++ acc := by
  fun_induction digits58 n acc with
  | case1 acc => simp [B58.toBE, B58.digitsLE]
  | case2 n acc h ih => rw [ih, B58.toBE, B58.toBE, B58.digitsLE.eq_def 58 _ n, dif_neg h]; simp

theorem toNatBE_eq (bs : Bytes) : toNatBE bs = B58.ofBE 256 (bs.map (·.toNat)) := by
  rw [toNatBE, B58.foldl_ofBE, Nat.zero_mul, Nat.zero_add]

theorem leadZeros_eq (bs : Bytes) : (bs.takeWhile (· == 0)).length = B58.leadZeros (bs.map (·.toNat)) := by
  induction bs with
  | nil => rfl
  | cons b bs ih =>
    rw [List.takeWhile_cons, List.map_cons]
    by_cases hb : b = 0
    · rw [hb, beq_self_eq_true, if_pos rfl, List.length_cons, ih]; rfl
    · obtain ⟨k, hk⟩ := Nat.exists_eq_succ_of_ne_zero fun e => hb (UInt8.toNat_inj.mp e)
      rw [beq_false_of_ne hb, hk]; rfl

theorem base58_toList (bs : Bytes) :
    (base58 bs).toList = (B58.encode (bs.map (·.toNat))).map (fun d => b58chars[d]!) := by
  unfold base58 B58.encode
  simp only [String.toList_ofList, List.map_append, List.map_replicate]
  rw [leadZeros_eq, digits58_eq, List.append_nil, toNatBE_eq, B58.ofBE_stripZeros, b58chars_table.2.2]

theorem encode_lt (l : List Nat) : ∀ d ∈ B58.encode l, d < 58 := by
  intro d hd
  unfold B58.encode at hd
  rcases List.mem_append.mp hd with h | h
  · have := List.eq_of_mem_replicate h; omega
  · exact B58.toBE_lt 58 (by omega) _ d h

theorem base58Decode_base58 (bs : Bytes) : base58Decode (base58 bs) = some bs := by
  unfold base58Decode b58val
  rw [base58_toList, mapM_alphabet b58chars b58chars_table.1 _ (by rw [b58chars_table.2.1]; exact encode_lt _)]
  simp only [Option.map_some]
  rw [B58.decode_encode _ (by intro d hd; obtain ⟨b, _, rfl⟩ := List.mem_map.mp hd; exact b.toNat_lt)]
  simp [List.map_map, Function.comp_def]

theorem sha256_length (b : Bytes) : (Sha.sha256 b).length = 32 := by
  simp [Sha.sha256, Sha.out32]

theorem base58checkDecode_base58check (p : Bytes) : base58checkDecode (base58check p) = some p := by
  unfold base58checkDecode base58check
  rw [base58Decode_base58]
  have h4 : ((sha256d p).take 4).length = 4 := by simp [sha256d, sha256_length]
  simp only [Option.bind_some, List.length_append, h4]
  have e1 : p.length + 4 - 4 = p.length := by omega
  have hn : ¬ p.length + 4 < 4 := by omega
  simp only [hn, if_false, e1, List.take_left', List.drop_left', if_true]
end A
