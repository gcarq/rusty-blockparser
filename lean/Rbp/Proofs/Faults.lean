import Rbp.Proofs.Driver
namespace Run
open Wk CB

/-- height `k` cannot be served, with error message `m`: its blk file is absent, or reading the block at the recorded offset
    fails (file emptied / truncated inside the block / offset past the end: `readAt` returns an error), or `--verify` rejects
    the block that was read -/
def FailsAt (coin : Coin) (o : Opts) (key : Option W.Bytes) (files : List (Nat × BlkFile)) (trimmed : List (Nat × Rec))
    (k : Nat) (m : String) : Prop :=
  ∃ r, lookup trimmed k = some r ∧
    (((files.find? (·.1 == r.file)).map (·.2) = none ∧ m = "Block file for block not found") ∨
     (∃ f, (files.find? (·.1 == r.file)).map (·.2) = some f ∧
        (readAt coin key f r.off = .err m ∨
         (∃ sz b, readAt coin key f r.off = .ok (sz, b) ∧ o.verify = true ∧ verifyBlock coin trimmed b k = .err m))))

theorem FailsAt.serve {coin : Coin} {o : Opts} {key : Option W.Bytes} {files : List (Nat × BlkFile)} {trimmed : List (Nat × Rec)}
    {k : Nat} {m : String} (hf : FailsAt coin o key files trimmed k m) :
    Run.serve coin o key files trimmed k = .error (.errorAt k m) := by
  obtain ⟨r, hl, ⟨hnone, rfl⟩ | ⟨f, hsome, he | ⟨sz, b, hok, hv, hve⟩⟩⟩ := hf <;>
    simp only [Run.serve, fetch, fileOf, Option.map_some, Option.map_none, *, if_true]
end Run
