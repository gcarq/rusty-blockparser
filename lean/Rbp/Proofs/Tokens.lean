import Rbp.Spec.PushRules
import Rbp.Model.Script
/-!
The three readers of a script — the grammar `T.tokenise`, the fork-coin tokeniser `S.tokens` and rust-bitcoin's instruction
iterator `S.instrs` — read the same thing: on the encoding of a well-formed token followed by `r` each consumes that token and
goes on with `r` (`reads_enc`), and a non-empty script is either of that form or starts with a push that runs past its end, on
which all three stop (`view`).  Everything else about them is induction along that decomposition (`script_induction`).
The readers themselves are unfolded only in their equations by kind of first byte (`*_op`, `*_direct`, `*_pd`).
-/
namespace T

theorem le_cons (b : UInt8) (bs : Bytes) : le (b :: bs) = b.toNat + 256 * le bs := rfl

theorem toLE_length (k n : Nat) : (toLE k n).length = k := by
  induction k generalizing n <;> simp [toLE, *]

theorem le_toLE (k n : Nat) (h : n < 256 ^ k) : le (toLE k n) = n := by
  induction k generalizing n with
  | zero => rw [Nat.pow_zero, Nat.lt_one_iff] at h; subst h; rfl
  | succ k ih =>
    rw [toLE, le_cons, ih _ (by rw [Nat.pow_succ] at h; omega), UInt8.toNat_ofNat_of_lt' (show n % 256 < 256 by omega)]
    omega

theorem le_lt : ∀ bs : Bytes, le bs < 256 ^ bs.length
  | [] => Nat.one_pos
  | b :: bs => by
    have := le_lt bs
    have := b.toNat_lt
    rw [le_cons, List.length_cons, Nat.pow_succ]; omega

theorem toLE_le : ∀ bs : Bytes, toLE bs.length (le bs) = bs
  | [] => rfl
  | b :: bs => by
    have := b.toNat_lt
    rw [List.length_cons, toLE, le_cons, show (b.toNat + 256 * le bs) % 256 = b.toNat by omega,
      show (b.toNat + 256 * le bs) / 256 = le bs by omega, toLE_le bs, UInt8.ofNat_toNat]

theorem tokenise_nil : tokenise [] = some [] := by rw [tokenise]

theorem tokenise_op (b : UInt8) (rest : Bytes) (h : b.toNat = 0 ∨ 0x4e < b.toNat) :
    tokenise (b :: rest) = (tokenise rest).map (Tok.op b :: ·) := by
  rw [tokenise]
  simp only
  rw [if_neg (by omega), if_neg (by omega), if_neg (by omega), if_neg (by omega)]

theorem tokenise_direct (b : UInt8) (rest : Bytes) (h1 : 1 ≤ b.toNat) (h2 : b.toNat ≤ 75) :
    tokenise (b :: rest) =
      if b.toNat ≤ rest.length then (tokenise (rest.drop b.toNat)).map (Tok.push .direct (rest.take b.toNat) :: ·) else none := by
  rw [tokenise]
  simp [h1, h2]

theorem tokenise_pd (f : Form) (hf : f ≠ .direct) (rest : Bytes) :
    tokenise (f.opcode :: rest) =
      if f.width ≤ rest.length then
        if le (rest.take f.width) ≤ (rest.drop f.width).length then
          (tokenise ((rest.drop f.width).drop (le (rest.take f.width)))).map (Tok.push f ((rest.drop f.width).take (le (rest.take f.width))) :: ·)
        else none
      else none := by
  rw [tokenise]
  cases f with
  | direct => exact absurd rfl hf
  | pd1 | pd2 | pd4 => simp [Form.opcode, Form.width]

theorem enc_pd (f : Form) (hf : f ≠ .direct) (bs : Bytes) :
    (Tok.push f bs).enc = f.opcode :: (toLE f.width bs.length ++ bs) := by
  cases f <;> first | exact absurd rfl hf | rfl

theorem wf_pd (f : Form) (hf : f ≠ .direct) (bs : Bytes) : (Tok.push f bs).WF ↔ bs.length < 256 ^ f.width := by
  cases f <;> first | exact absurd rfl hf | exact Iff.rfl

theorem enc_length_pos (t : Tok) : 0 < t.enc.length := by
  rcases t with ⟨_ | _ | _ | _, bs⟩ | b <;> simp [Tok.enc]
end T

namespace S
open T (Form Tok)

theorem classify_le (b : UInt8) (h : b.toNat ≤ 0x4b) : classify b = .pushbytes b.toNat := by
  unfold classify
  simp only
  rw [if_neg (by omega), if_neg (by omega), if_neg (by omega), if_neg (by omega), if_neg (by omega), if_pos h]

theorem ite_ne {α} {c : Prop} [Decidable c] {a b x : α} (ha : a ≠ x) (hb : b ≠ x) : ite c a b ≠ x := by
  split <;> assumption

theorem classify_gt (b : UInt8) (h : 0x4b < b.toNat) (n : Nat) : classify b ≠ .pushbytes n := by
  unfold classify
  simp only [if_neg (Nat.not_le.mpr h)]
  exact ite_ne nofun (ite_ne nofun (ite_ne nofun (ite_ne nofun (ite_ne nofun nofun))))

theorem ne_pd (b : UInt8) (h : 0x4e < b.toNat) : b ≠ 0x4c ∧ b ≠ 0x4d ∧ b ≠ 0x4e := by
  refine ⟨?_, ?_, ?_⟩ <;> rintro rfl <;> simp at h

/-- every byte is an opcode token, a direct push, or one of the three PUSHDATA opcodes -/
theorem kind_cases (b : UInt8) :
    (b.toNat = 0 ∨ 0x4e < b.toNat) ∨ (1 ≤ b.toNat ∧ b.toNat ≤ 75) ∨ ∃ f : Form, f ≠ .direct ∧ b = f.opcode := by
  by_cases h1 : b.toNat = 0x4c
  · exact .inr (.inr ⟨.pd1, nofun, UInt8.toNat_inj.mp h1⟩)
  by_cases h2 : b.toNat = 0x4d
  · exact .inr (.inr ⟨.pd2, nofun, UInt8.toNat_inj.mp h2⟩)
  by_cases h4 : b.toNat = 0x4e
  · exact .inr (.inr ⟨.pd4, nofun, UInt8.toNat_inj.mp h4⟩)
  omega

theorem tokens_nil : tokens [] = some [] := by rw [tokens]
theorem instrs_nil : instrs [] = [] := by rw [instrs]

theorem tokens_op (b : UInt8) (rest : Bytes) (h : b.toNat = 0 ∨ 0x4e < b.toNat) :
    tokens (b :: rest) = if classify b = .noop then tokens rest else (tokens rest).map (El.op b :: ·) := by
  rw [tokens]
  rcases h with h | h
  · simp [classify_le b (by omega), h]
  · have hc := classify_gt b (by omega)
    obtain ⟨h1, h2, h3⟩ := ne_pd b h
    simp [h1, h2, h3]

theorem tokens_direct (b : UInt8) (rest : Bytes) (h1 : 1 ≤ b.toNat) (h2 : b.toNat ≤ 75) :
    tokens (b :: rest) =
      if b.toNat ≤ rest.length then (tokens (rest.drop b.toNat)).map (El.data (rest.take b.toNat) :: ·) else none := by
  rw [tokens]
  have : 0 < b.toNat := h1
  simp [classify_le b h2, this]

theorem tokens_pd (f : Form) (hf : f ≠ .direct) (rest : Bytes) :
    tokens (f.opcode :: rest) =
      if f.width ≤ rest.length then
        if leN (rest.take f.width) = 0 then (tokens (rest.drop f.width)).map (El.op f.opcode :: ·)
        else if leN (rest.take f.width) ≤ (rest.drop f.width).length then
          (tokens ((rest.drop f.width).drop (leN (rest.take f.width)))).map (El.data ((rest.drop f.width).take (leN (rest.take f.width))) :: ·)
        else none
      else none := by
  rw [tokens]
  cases f with
  | direct => exact absurd rfl hf
  | pd1 => simp [Form.opcode, Form.width, Nat.pos_iff_ne_zero, show classify 0x4c = .ordinary by decide]
  | pd2 => simp [Form.opcode, Form.width, Nat.pos_iff_ne_zero, show classify 0x4d = .ordinary by decide]
  | pd4 => simp [Form.opcode, Form.width, Nat.pos_iff_ne_zero, show classify 0x4e = .ordinary by decide]

theorem instrs_op (b : UInt8) (rest : Bytes) (h : b.toNat = 0 ∨ 0x4e < b.toNat) :
    instrs (b :: rest) = some (if b = 0 then .push [] else .op b) :: instrs rest := by
  rw [instrs]
  rcases h with h | h
  · obtain rfl : b = 0 := UInt8.toNat_inj.mp h
    simp [show classify 0 = .pushbytes 0 by decide]
  · have hc := classify_gt b (by omega)
    have h0 : b ≠ 0 := by rintro rfl; simp at h
    obtain ⟨h1, h2, h3⟩ := ne_pd b h
    simp [h0, h1, h2, h3]

theorem instrs_direct (b : UInt8) (rest : Bytes) (h2 : b.toNat ≤ 75) :
    instrs (b :: rest) =
      if b.toNat ≤ rest.length then some (.push (rest.take b.toNat)) :: instrs (rest.drop b.toNat) else [none] := by
  rw [instrs]
  simp [classify_le b h2]

theorem instrs_pd (f : Form) (hf : f ≠ .direct) (rest : Bytes) :
    instrs (f.opcode :: rest) =
      if f.width ≤ rest.length then
        if leN (rest.take f.width) ≤ (rest.drop f.width).length then
          some (.push ((rest.drop f.width).take (leN (rest.take f.width)))) :: instrs ((rest.drop f.width).drop (leN (rest.take f.width)))
        else [none]
      else [none] := by
  rw [instrs]
  cases f with
  | direct => exact absurd rfl hf
  | pd1 => simp [Form.opcode, Form.width, show classify 0x4c = .ordinary by decide]
  | pd2 => simp [Form.opcode, Form.width, show classify 0x4d = .ordinary by decide]
  | pd4 => simp [Form.opcode, Form.width, show classify 0x4e = .ordinary by decide]
end S

namespace SM
open S

/-- what `custom.rs` keeps of a full-fidelity token: no-op opcodes are dropped, an empty push counts as its opcode,
    a non-empty push is data whatever its push form -/
def eraseTok : T.Tok → List El
  | .push f bs => if bs.isEmpty then [El.op (match f with | .direct => 0 | _ => f.opcode)] else [El.data bs]
  | .op b => if classify b = .noop then [] else [El.op b]
def erase (ts : List T.Tok) : List El := ts.flatMap eraseTok

/-- what rust-bitcoin's instruction iterator yields for a full-fidelity token (OP_0 is an empty push there) -/
def toIns : T.Tok → Ins
  | .push _ bs => .push bs
  | .op b => if b = 0 then .push [] else .op b

theorem T_le_eq_leN (bs : Bytes) : T.le bs = leN bs := rfl

theorem eraseTok_push (f : T.Form) (bs : Bytes) (h : bs ≠ []) : eraseTok (.push f bs) = [.data bs] := by
  cases bs <;> simp_all [eraseTok]
end SM

namespace S
open T (Form Tok tokenise)
open SM (eraseTok erase toIns)

structure Reads (s : Bytes) (t : Tok) (r : Bytes) : Prop where
  tokenise : tokenise s = (tokenise r).map (t :: ·)
  tokens : tokens s = (tokens r).map (eraseTok t ++ ·)
  instrs : instrs s = some (toIns t) :: instrs r

structure Truncated (s : Bytes) : Prop where
  tokenise : tokenise s = none
  tokens : tokens s = none
  instrs : instrs s = [none]

theorem reads_enc (t : Tok) (ht : t.WF) (r : Bytes) : Reads (t.enc ++ r) t r := by
  cases t with
  | op b =>
    have h : b.toNat = 0 ∨ 0x4e < b.toNat := ht
    refine ⟨T.tokenise_op b r h, ?_, ?_⟩
    · rw [show (Tok.op b).enc ++ r = b :: r from rfl, tokens_op b r h]
      by_cases hc : classify b = .noop <;> simp [eraseTok, hc]
    · rw [show (Tok.op b).enc ++ r = b :: r from rfl, instrs_op b r h]; rfl
  | push f bs =>
    by_cases hf : f = .direct
    · subst hf
      have ht : 1 ≤ bs.length ∧ bs.length ≤ 75 := ht
      have e : (UInt8.ofNat bs.length).toNat = bs.length := by simp [UInt8.toNat_ofNat']; omega
      have hne : bs ≠ [] := by rintro rfl; simp at ht
      rw [show (Tok.push .direct bs).enc ++ r = UInt8.ofNat bs.length :: (bs ++ r) from rfl]
      refine ⟨?_, ?_, ?_⟩
      · rw [T.tokenise_direct _ _ (by omega) (by omega)]; simp [e]
      · rw [tokens_direct _ _ (by omega) (by omega)]; simp [e, SM.eraseTok_push _ _ hne]
      · rw [instrs_direct _ _ (by omega)]; simp [e, toIns]
    · rw [T.wf_pd f hf] at ht
      have hl : leN (T.toLE f.width bs.length) = bs.length := T.le_toLE _ _ ht
      obtain ⟨h2, h3⟩ := T.take_drop_append (T.toLE f.width bs.length) (bs ++ r)
      rw [T.toLE_length] at h2 h3
      have h1 : f.width ≤ (T.toLE f.width bs.length ++ (bs ++ r)).length := by simp [T.toLE_length]
      rw [T.enc_pd f hf, List.cons_append, List.append_assoc]
      refine ⟨?_, ?_, ?_⟩
      · rw [T.tokenise_pd f hf, if_pos h1, h2, h3, show T.le _ = _ from hl]; simp
      · rw [tokens_pd f hf, if_pos h1, h2, h3, hl]
        cases bs with
        | nil => cases f <;> first | exact absurd rfl hf | simp [eraseTok]
        | cons x bs => simp [eraseTok]
      · rw [instrs_pd f hf, if_pos h1, h2, h3, hl]; simp [toIns]

theorem view (b : UInt8) (rest : Bytes) : (∃ t r, Tok.WF t ∧ b :: rest = t.enc ++ r) ∨ Truncated (b :: rest) := by
  rcases kind_cases b with h | ⟨h1, h2⟩ | ⟨f, hf, rfl⟩
  · exact .inl ⟨.op b, rest, h, rfl⟩
  · by_cases hk : b.toNat ≤ rest.length
    · refine .inl ⟨.push .direct (rest.take b.toNat), rest.drop b.toNat, ?_, ?_⟩
      · show 1 ≤ (rest.take b.toNat).length ∧ (rest.take b.toNat).length ≤ 75
        rw [List.length_take_of_le hk]; exact ⟨h1, h2⟩
      · show _ = UInt8.ofNat (rest.take b.toNat).length :: rest.take b.toNat ++ rest.drop b.toNat
        rw [List.length_take_of_le hk]; simp
    · exact .inr ⟨by rw [T.tokenise_direct b rest h1 h2, if_neg hk], by rw [tokens_direct b rest h1 h2, if_neg hk],
        by rw [instrs_direct b rest h2, if_neg hk]⟩
  · by_cases hw : f.width ≤ rest.length
    · by_cases hn : leN (rest.take f.width) ≤ (rest.drop f.width).length
      · refine .inl ⟨.push f ((rest.drop f.width).take (leN (rest.take f.width))), (rest.drop f.width).drop (leN (rest.take f.width)), ?_, ?_⟩
        · rw [T.wf_pd f hf, List.length_take_of_le hn]
          have := T.le_lt (rest.take f.width)
          rwa [List.length_take_of_le hw] at this
        · rw [T.enc_pd f hf, List.length_take_of_le hn]
          have := T.toLE_le (rest.take f.width)
          rw [List.length_take_of_le hw] at this
          rw [show leN _ = T.le _ from rfl, this, List.cons_append, List.append_assoc, List.take_append_drop, List.take_append_drop]
      · exact .inr ⟨by rw [T.tokenise_pd f hf, if_pos hw]; exact if_neg hn,
          by rw [tokens_pd f hf, if_pos hw, if_neg (by omega), if_neg hn], by rw [instrs_pd f hf, if_pos hw, if_neg hn]⟩
    · exact .inr ⟨by rw [T.tokenise_pd f hf, if_neg hw], by rw [tokens_pd f hf, if_neg hw], by rw [instrs_pd f hf, if_neg hw]⟩

theorem script_induction {P : Bytes → Prop} (nil : P []) (tok : ∀ t r, Tok.WF t → P r → P (t.enc ++ r))
    (trunc : ∀ s, Truncated s → P s) : ∀ s, P s
  | [] => nil
  | b :: rest =>
    match view b rest with
    | .inl ⟨t, r, ht, hs⟩ => hs ▸ tok t r ht (script_induction nil tok trunc r)
    | .inr h => trunc _ h
termination_by s => s.length
decreasing_by
  have := congrArg List.length hs
  have := T.enc_length_pos t
  simp only [List.length_append, List.length_cons] at *
  omega

theorem instrs_sound : ∀ s : Bytes, (∀ x ∈ instrs s, x ≠ none) →
    ∃ toks : List Tok, (∀ t ∈ toks, t.WF) ∧ s = toks.flatMap Tok.enc ∧ instrs s = toks.map (fun t => some (toIns t)) := by
  refine script_induction ?_ ?_ ?_
  · exact fun _ => ⟨[], by simp, rfl, instrs_nil⟩
  · intro t r ht ih h
    rw [(reads_enc t ht r).instrs] at h ⊢
    obtain ⟨ts, hw, hs, hi⟩ := ih fun x hx => h x (List.mem_cons_of_mem _ hx)
    exact ⟨t :: ts, by simpa [ht] using hw, by rw [List.flatMap_cons, ← hs], by rw [hi]; rfl⟩
  · intro s hs h; rw [hs.instrs] at h; exact absurd rfl (h none (by simp))

/-- every instruction, and the error that ends the iteration, accounts for at least one byte -/
theorem instrs_length_le : ∀ s : Bytes, (instrs s).length ≤ s.length + 1 ∧ ((instrs s).filter Option.isSome).length ≤ s.length := by
  refine script_induction ?_ ?_ ?_
  · simp [instrs_nil]
  · intro t r ht ih
    have := T.enc_length_pos t
    rw [(reads_enc t ht r).instrs]
    simp only [List.length_cons, List.length_append, List.filter_cons, Option.isSome_some, if_true]
    omega
  · intro s hs; rw [hs.instrs]; simp
end S

namespace T
theorem tokenise_enc (toks : List Tok) (h : ∀ t ∈ toks, t.WF) : tokenise (toks.flatMap Tok.enc) = some toks := by
  induction toks with
  | nil => exact tokenise_nil
  | cons t ts ih =>
    rw [List.flatMap_cons, (S.reads_enc t (h t (by simp)) _).tokenise, ih fun x hx => h x (by simp [hx])]; rfl

/-- the tokeniser only ever returns a token list that re-encodes to the script; with `tokenise_enc`:
    `tokenise s = some toks` iff `s` is the encoding of the well-formed token list `toks` -/
theorem tokenise_sound : ∀ (n : Nat) (s : Bytes) (toks : List Tok), s.length = n → tokenise s = some toks →
    s = toks.flatMap Tok.enc ∧ ∀ t ∈ toks, t.WF := by
  rintro _ s toks - h
  induction s using S.script_induction generalizing toks with
  | nil => rw [tokenise_nil] at h; cases h; simp
  | tok t r ht ih =>
    rw [(S.reads_enc t ht r).tokenise, Option.map_eq_some_iff] at h
    obtain ⟨ts, hts, rfl⟩ := h
    obtain ⟨hs, hw⟩ := ih ts hts
    exact ⟨by rw [List.flatMap_cons, ← hs], by simpa [ht] using hw⟩
  | trunc s hs => rw [hs.tokenise] at h; cases h
end T

namespace SM
open S

theorem instrs_enc (toks : List T.Tok) (h : ∀ t ∈ toks, t.WF) :
    instrs (toks.flatMap T.Tok.enc) = toks.map (fun t => some (toIns t)) := by
  induction toks with
  | nil => exact instrs_nil
  | cons t ts ih =>
    rw [List.flatMap_cons, (reads_enc t (h t (by simp)) _).instrs, ih fun x hx => h x (by simp [hx])]; rfl

theorem tokens_eq_spec : ∀ (n : Nat) (s : Bytes), s.length = n → tokens s = (T.tokenise s).map erase := by
  rintro _ s -
  induction s using script_induction with
  | nil => rw [tokens_nil, T.tokenise_nil]; rfl
  | tok t r ht ih =>
    rw [(reads_enc t ht r).tokens, (reads_enc t ht r).tokenise, ih]
    cases T.tokenise r <;> simp [erase]
  | trunc s hs => rw [hs.tokens, hs.tokenise]; rfl

open T (Tok)

/-- OP_RETURN followed by exactly one data push (C16) -/
def singlePush (f : T.Form) (p : Bytes) : Bytes := 0x6a :: (T.Tok.push f p).enc

theorem singlePush_reads (f : T.Form) (p : Bytes) (hwf : (Tok.push f p).WF) :
    Reads (singlePush f p) (.op 0x6a) (Tok.push f p).enc ∧ Reads (Tok.push f p).enc (.push f p) [] :=
  ⟨reads_enc (.op 0x6a) (.inr (by decide)) _, by simpa using reads_enc (.push f p) hwf []⟩
end SM
