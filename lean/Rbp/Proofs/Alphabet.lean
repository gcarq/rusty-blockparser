import Rbp.Model.Addr
/-!
# Encoding digits through an alphabet, decoding by lookup

Base58 and Bech32 print a digit `d` as `a[d]!` and read a symbol back as its first position in `a`.  Reading inverts printing
as soon as no symbol occurs twice; that is all the two 58- and 32-symbol tables have to be checked for.
-/

theorem List.Nodup.findIdx?_getElem {α} [BEq α] [LawfulBEq α] {l : List α} (H : l.Nodup) {i : Nat} (h : i < l.length) :
    l.findIdx? (· == l[i]) = some i :=
  List.findIdx?_eq_some_iff_findIdx_eq.mpr ⟨h, H.idxOf_getElem i h⟩

theorem List.Nodup.of_map {α β} (f : α → β) {l : List α} (h : (l.map f).Nodup) : l.Nodup :=
  List.Pairwise.of_map f (fun _ _ => mt (congrArg f)) h

theorem mapM_alphabet {α} [BEq α] [LawfulBEq α] [Inhabited α] (a : Array α) (H : a.toList.Nodup) (ds : List Nat)
    (h : ∀ d ∈ ds, d < a.size) : (ds.map (fun d => a[d]!)).mapM (fun c => a.toList.findIdx? (· == c)) = some ds := by
  induction ds with
  | nil => rfl
  | cons d ds ih =>
    obtain ⟨hd, hds⟩ := List.forall_mem_cons.mp h
    rw [List.map_cons, List.mapM_cons, ih hds, getElem!_pos a d hd, ← Array.getElem_toList hd, H.findIdx?_getElem]
    rfl

namespace A

theorem b58chars_eq : b58chars = #['1','2','3','4','5','6','7','8','9','A','B','C','D','E','F','G','H','J','K','L','M','N','P','Q',
    'R','S','T','U','V','W','X','Y','Z','a','b','c','d','e','f','g','h','i','j','k','m','n','o','p','q','r','s','t','u','v','w','x',
    'y','z'] := by
  -- a string literal unifies with `String.ofList` of its characters; evaluating `String.toList` on it would decode UTF-8
  show (String.ofList _).toList.toArray = _
  rw [String.toList_ofList]

theorem b58chars_table : b58chars.toList.Nodup ∧ b58chars.size = 58 ∧ b58chars[0]! = '1' := by
  -- distinct code points: comparing numbers is much cheaper for the kernel than comparing characters
  rw [b58chars_eq]; exact ⟨.of_map Char.toNat (by decide +kernel), rfl, rfl⟩

theorem charset_eq : charset = #['q','p','z','r','y','9','x','8','g','f','2','t','v','d','w','0','s','3','j','n','5','4','k','h',
    'c','e','6','m','u','a','7','l'] := by
  show (String.ofList _).toList.toArray = _
  rw [String.toList_ofList]

theorem charset_table : charset.toList.Nodup ∧ charset.size = 32 := by
  rw [charset_eq]; exact ⟨.of_map Char.toNat (by decide +kernel), rfl⟩
end A
