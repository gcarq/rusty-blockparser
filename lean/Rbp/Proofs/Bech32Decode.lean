import Rbp.Proofs.Bech32Check
import Rbp.Proofs.Alphabet
import Rbp.Proofs.Base58
/-!
# Bech32 / Bech32m: every segwit address the model prints decodes to its witness version and program (C05)
-/
namespace Bech

theorem groupVal_eq (g : List Bool) : groupVal g = B58.ofBE 2 (g.map Bool.toNat) := by
  rw [groupVal, B58.foldl_ofBE, Nat.zero_mul, Nat.zero_add]

theorem groupVal_cons (b : Bool) (g : List Bool) : groupVal (b :: g) = b.toNat * 2 ^ g.length + groupVal g := by
  rw [groupVal_eq, groupVal_eq, List.map_cons, B58.ofBE_cons, List.length_map]

theorem groupVal_lt (g : List Bool) : groupVal g < 2 ^ g.length := by
  have := B58.ofBE_lt 2 (g.map Bool.toNat) (by intro d hd; obtain ⟨b, _, rfl⟩ := List.mem_map.mp hd; cases b <;> decide)
  rwa [← groupVal_eq, List.length_map] at this

theorem bitsN_length (k n : Nat) : (bitsN k n).length = k := by
  induction k with
  | zero => rfl
  | succ k ih => simp [bitsN, ih]

theorem bitsN_congr {k n m : Nat} (h : ∀ i < k, n.testBit i = m.testBit i) : bitsN k n = bitsN k m := by
  induction k with
  | zero => rfl
  | succ k ih => rw [bitsN, bitsN, h k (Nat.lt_succ_self k), ih fun i hi => h i (Nat.lt_succ_of_lt hi)]

theorem bitsN_groupVal (g : List Bool) : bitsN g.length (groupVal g) = g := by
  induction g with
  | nil => rfl
  | cons b g ih =>
    -- the value is `2 ^ |g| * b + groupVal g` with `groupVal g < 2 ^ |g|`: bit `|g|` is `b`, the bits below are those of `groupVal g`
    have hbit := Nat.testBit_two_pow_mul_add b.toNat (groupVal_lt g)
    rw [groupVal_cons, Nat.mul_comm, List.length_cons, bitsN, hbit, if_neg (Nat.lt_irrefl _), Nat.sub_self,
      bitsN_congr fun i hi => (hbit i).trans (if_pos hi), ih]
    cases b <;> rfl

theorem groupVal_bitsN (k n : Nat) : groupVal (bitsN k n) = n % 2 ^ k := by
  induction k with
  | zero => simp [bitsN, groupVal, Nat.mod_one]
  | succ k ih =>
    rw [bitsN, groupVal_cons, bitsN_length, ih, Nat.toNat_testBit, Nat.mod_pow_succ, Nat.add_comm, Nat.mul_comm]

theorem chunks_flatten {α} (k : Nat) (hk : 0 < k) (l : List α) : (chunks k hk l).flatten = l := by
  fun_induction chunks k hk l with
  | case1 => rfl
  | case2 a l ih => rw [List.flatten_cons, ih, List.take_append_drop]

theorem chunks_full {α} (k : Nat) (hk : 0 < k) (l : List α) (hd : k ∣ l.length) : ∀ g ∈ chunks k hk l, g.length = k := by
  fun_induction chunks k hk l with
  | case1 => nofun
  | case2 a l ih =>
    have hkn : k ≤ (a :: l).length := Nat.le_of_dvd (Nat.succ_pos _) hd
    intro g hg
    rcases List.mem_cons.mp hg with rfl | hg
    · rw [List.length_take]; omega
    · exact ih (by rw [List.length_drop]; exact Nat.dvd_sub hd (Nat.dvd_refl k)) g hg

theorem chunks_append {α} (k : Nat) (hk : 0 < k) (g r : List α) (hg : g.length = k) : chunks k hk (g ++ r) = g :: chunks k hk r := by
  cases g with
  | nil => exact absurd hg (Nat.ne_of_lt hk)
  | cons a g => rw [List.cons_append, chunks, ← List.cons_append, List.take_left' hg, List.drop_left' hg]

theorem chunks_flatMap {α β} (k : Nat) (hk : 0 < k) (f : α → List β) (hf : ∀ x, (f x).length = k) (xs : List α) :
    chunks k hk (xs.flatMap f) = xs.map f := by
  induction xs with
  | nil => rw [List.flatMap_nil, chunks, List.map_nil]
  | cons x xs ih => rw [List.flatMap_cons, chunks_append k hk _ _ (hf x), ih, List.map_cons]
end Bech

namespace A
open Bech

def charsetVal (c : Char) : Option Nat := charset.toList.findIdx? (· == c)

/-- 5→8 bit regrouping of the reference decoder (BIP173): whole bytes, and the leftover must be fewer than five zero bits -/
def from5 (vs : List Nat) : Option Bytes :=
  let B := vs.flatMap (bitsN 5)
  let n := B.length / 8
  let rest := B.drop (8 * n)
  if rest.all (· == false) && decide (rest.length < 5) then
    some ((chunks 8 (by omega) (B.take (8 * n))).map fun g => UInt8.ofNat (groupVal g))
  else none

/-- reference decoder of a segwit address for a known human-readable part: prefix `hrp ‖ "1"`, data characters from the
    Bech32 alphabet, checksum constant chosen by the witness version (Bech32 for 0, Bech32m otherwise), program regrouped -/
def segwitDecode (hrp : String) (s : String) : Option (Nat × Bytes) :=
  let pre := hrp.toList ++ ['1']
  let cs := s.toList
  if cs.take pre.length ≠ pre then none else
  ((cs.drop pre.length).mapM charsetVal).bind fun vals =>
    match vals with
    | [] => none
    | ver :: rest =>
      if rest.length < 6 then none else
      if polymod ((hrpExpand hrp ++ vals).map (BitVec.ofNat 30)) ≠ bechConst ver then none else
      (from5 (rest.take (rest.length - 6))).map fun prog => (ver, prog)

theorem bitsOf_length (bs : Bytes) : (bitsOf bs).length = 8 * bs.length := by
  induction bs with
  | nil => rfl
  | cons b bs ih => simp only [bitsOf, List.flatMap_cons, List.length_append, bitsN_length, List.length_cons] at ih ⊢; omega

theorem flatMap_bits_groupVal (k : Nat) (cs : List (List Bool)) (h : ∀ g ∈ cs, g.length = k) :
    (cs.map groupVal).flatMap (bitsN k) = cs.flatten := by
  rw [List.flatMap_def, List.map_map, List.map_congr_left fun g hg => show _ = id g by rw [Function.comp, ← h g hg, bitsN_groupVal, id],
    List.map_id]

theorem byte_of_bits (b : UInt8) : UInt8.ofNat (groupVal (bitsN 8 b.toNat)) = b := by
  rw [groupVal_bitsN, Nat.mod_eq_of_lt b.toNat_lt, UInt8.ofNat_toNat]

/-- `to5` pads to a whole number of groups of five -/
theorem pad_dvd (l : List Bool) : 5 ∣ (l ++ List.replicate ((5 - l.length % 5) % 5) false).length := by
  rw [List.length_append, List.length_replicate]; exact Nat.dvd_of_mod_eq_zero (by omega)

theorem to5_bits (prog : Bytes) : ∃ p, p < 5 ∧ (to5 prog).flatMap (bitsN 5) = bitsOf prog ++ List.replicate p false :=
  ⟨(5 - (bitsOf prog).length % 5) % 5, by omega,
    by rw [to5, flatMap_bits_groupVal 5 _ (chunks_full 5 (by omega) _ (pad_dvd _)), chunks_flatten]⟩

theorem to5_lt (prog : Bytes) : ∀ v ∈ to5 prog, v < 32 := by
  intro v hv
  obtain ⟨g, hg, rfl⟩ := List.mem_map.mp hv
  have hl := groupVal_lt g
  rwa [chunks_full 5 (by omega) _ (pad_dvd _) g hg] at hl

theorem from5_of_bits {vs : List Nat} {prog : Bytes} {p : Nat} (hp : p < 5)
    (h : vs.flatMap (bitsN 5) = bitsOf prog ++ List.replicate p false) : from5 vs = some prog := by
  have hB := bitsOf_length prog
  have hn : (bitsOf prog ++ List.replicate p false).length / 8 = prog.length := by
    rw [List.length_append, List.length_replicate, hB]; omega
  unfold from5
  simp only
  rw [h, hn, List.drop_left' hB, List.take_left' hB]
  simp only [List.all_replicate, beq_self_eq_true, ite_self, List.length_replicate, hp, decide_true, Bool.and_self, if_true,
    Option.some.injEq]
  rw [show bitsOf prog = prog.flatMap fun b => bitsN 8 b.toNat from rfl,
    chunks_flatMap 8 _ (fun b : UInt8 => bitsN 8 b.toNat) fun b => bitsN_length 8 b.toNat, List.map_map]
  exact (List.map_congr_left fun b _ => byte_of_bits b).trans (List.map_id _)

theorem from5_to5 (prog : Bytes) : from5 (to5 prog) = some prog :=
  let ⟨_, hp, h⟩ := to5_bits prog
  from5_of_bits hp h

theorem checksum_lt (c : W) (vs : List Nat) : ∀ v ∈ checksum c vs, v < 32 := by
  intro v hv
  obtain ⟨i, _, rfl⟩ := List.mem_map.mp hv
  exact and31_lt _

theorem checksum_length (c : W) (vs : List Nat) : (checksum c vs).length = 6 := by simp [checksum]

theorem segwitDecode_segwitAddr (hrp : String) (ver : Nat) (hv : ver < 32) (prog : Bytes) :
    segwitDecode hrp (segwitAddr hrp ver prog) = some (ver, prog) := by
  unfold segwitDecode segwitAddr charsetVal
  simp only [String.toList_append, String.toList_ofList, show ("1" : String).toList = ['1'] from rfl]
  -- of the six checksum values only this is used: there are six, each below 32, and they make the polymod end in the constant
  have hck := checksum_valid (bechConst ver) (hrpExpand hrp ++ ver :: to5 prog)
  have h6 := checksum_length (bechConst ver) (hrpExpand hrp ++ ver :: to5 prog)
  have hlt := checksum_lt (bechConst ver) (hrpExpand hrp ++ ver :: to5 prog)
  generalize checksum (bechConst ver) (hrpExpand hrp ++ ver :: to5 prog) = ck at hck h6 hlt ⊢
  have hall : ∀ v ∈ ver :: to5 prog ++ ck, v < 32 :=
    List.forall_mem_append.mpr ⟨List.forall_mem_cons.mpr ⟨hv, to5_lt prog⟩, hlt⟩
  rw [List.take_left' rfl, List.drop_left' rfl, if_neg (not_not_intro rfl),
    mapM_alphabet charset charset_table.1 _ (by rw [charset_table.2]; exact hall)]
  simp only [Option.bind_some, List.cons_append]
  rw [if_neg (by simp [h6]), ← List.cons_append, ← List.append_assoc, hck, if_neg (not_not_intro rfl),
    List.take_left' (by simp [h6]), from5_to5]
  rfl
end A
