import Rbp.Proofs.Collect
import Rbp.Proofs.RunSpec
/-!
# From a data directory to the output of the run: one theorem (C01–C04, C09, C11, C12, C14)

A data directory is described by what it *stores*: index key/value pairs among which the records of an active chain
`A 0 … A T` can be found (plus anything else), and blk files that hold, at the offset each active record names, the length
prefix and the encoding of a well-formed block.  For every such directory, every range, every callback:
the run exits 0, delivers exactly `start..min(end,T)`, and its output is the callback's function of those abstract blocks.
-/
namespace Run
open Wk CB W

theorem run_of_directory (o : Opts) (key : Option Bytes) (kvs : List (Bytes × Bytes)) (files : List BlkFile) (coin : Coin)
    (hcoin : coinOf o.coin = some coin) (hkey : key ≠ some [])
    -- the index: distinct keys, decodable `b` records, an active chain among them
    (hnd : (kvs.map (·.1)).Nodup)
    (hdec : ∀ kv ∈ kvs, kv.1 ≠ [] ∧ (kv.1.head? = some 0x62 →
      ∃ hash r, kv = (0x62 :: hash, IndexRec.enc r) ∧ hash.length = 32 ∧ r.ok))
    (A : Nat → Bytes × IndexRec) (T : Nat)
    (hAok : ∀ k, k ≤ T → (A k).1.length = 32 ∧ (A k).2.ok)
    (hmem : ∀ k, k ≤ T → (0x62 :: (A k).1, (A k).2.enc) ∈ kvs)
    (hh : ∀ k, k ≤ T → (A k).2.height = k)
    (hpass : ∀ k, k ≤ T → passes ((A k).2.toRec (A k).1) = true)
    (hlink : ∀ k, k < T → (A (k + 1)).2.prev = (A k).1)
    (hinj : ∀ i j, i ≤ T → j ≤ T → (A i).1 = (A j).1 → i = j)
    (hroot : ∀ kv ∈ kvs, kv.1 ≠ 0x62 :: (A 0).2.prev)
    (hv : validScripts ((A T).2.toRec (A T).1) = true)
    (hcomp : ∀ hash r, (0x62 :: hash, IndexRec.enc r) ∈ kvs → hash.length = 32 → r.ok → passes (r.toRec hash) = true →
      validScripts (r.toRec hash) = true → r.toRec hash = (A T).2.toRec (A T).1 ∨ r.height < T)
    -- the range
    (E : Nat) (hE : E = (match o.stop with | some e => min e T | none => T)) (hstart : o.start ≤ E)
    -- the blk files: every active block of the range is stored where its record says
    (sz : Nat → Nat) (blk : Nat → W.Block)
    (hplaced : ∀ k, o.start ≤ k → k ≤ E →
      ∃ f rest, ((files.filterMap fun f => (parseBlkIndex f.name).map fun n => (n, f)).find?
          (·.1 == ((A k).2.toRec (A k).1).file)).map (·.2) = some f ∧
        4 ≤ ((A k).2.toRec (A k).1).off ∧
        unxor key (((A k).2.toRec (A k).1).off - 4) (bytesFrom f (((A k).2.toRec (A k).1).off - 4)) =
          toLE 4 (sz k) ++ (blk k).enc ++ rest ∧
        sz k < 256 ^ 4 ∧ (blk k).ok coin.auxpow)
    -- with --verify: the stored blocks form a consistent chain (merkle roots, prev-hash links to the indexed hashes, genesis)
    (hver : o.verify = true → ∀ k, o.start ≤ k → k ≤ E →
      M.rootRust _root_.A.sha256d (txids (blk k).toR) = some (blk k).toR.header.merkle ∧
      (k = 0 → blockHash (blk k).toR = coin.genesis) ∧ (k > 0 → (blk k).toR.header.prev = (A (k - 1)).1))
    -- the callback's own u64 sums stay in range (vacuous for csvdump, unspentcsvdump, opreturn)
    (hnp : callbackPanics o coin.version
      ((List.range' o.start (E + 1 - o.start)).map (fun k => (⟨k, sz k, (blk k).toR⟩ : EBlock))) = false) :
    (run o key kvs files).exit = 0 ∧ (run o key kvs files).delivered = List.range' o.start (E + 1 - o.start) ∧
    (run o key kvs files).files = (callbackOut o coin.version E
      ((List.range' o.start (E + 1 - o.start)).map (fun k => (⟨k, sz k, (blk k).toR⟩ : EBlock)))).1 ∧
    (run o key kvs files).stdout = (callbackOut o coin.version E
      ((List.range' o.start (E + 1 - o.start)).map (fun k => (⟨k, sz k, (blk k).toR⟩ : EBlock)))).2 := by
  obtain ⟨ld, hld, hmax, -, htrim⟩ := loadIndex_active o kvs hnd hdec A T hAok hmem hh hpass hlink hinj hroot hv hcomp
  obtain rfl : ld.maxH = E := hmax.trans hE.symm
  have hET : ld.maxH ≤ T := by
    rw [hE]
    cases o.stop with
    | none => exact Nat.le_refl T
    | some e => exact Nat.min_le_right e T
  have hlk : ∀ k, o.start - 1 ≤ k → k ≤ ld.maxH → lookup ld.trimmed k = some ((A k).2.toRec (A k).1) := fun k h1 h2 => by
    rw [htrim k h1 h2, if_pos (Nat.le_trans h2 hET)]
  refine run_stored o key kvs files coin ld hcoin hld hkey sz blk (fun k hk1 hk2 => ?_) hstart hnp
  have hkE : k ≤ ld.maxH := by omega
  obtain ⟨f, rest, hf, h4, hb, hsz, hok⟩ := hplaced k hk1 hkE
  refine ⟨⟨_, f, rest, hlk k (by omega) hkE, hf, h4, hb, hsz, hok⟩, fun hvt => ?_⟩
  obtain ⟨hr, hg, hp⟩ := hver hvt k hk1 hkE
  exact (verifyBlock_ok_iff ..).mpr ⟨hr, hg, fun hpos => ⟨_, hlk (k - 1) (by omega) (by omega), hp hpos⟩⟩
end Run
