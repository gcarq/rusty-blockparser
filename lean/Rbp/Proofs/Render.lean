import Rbp.Model.Hex
import Rbp.Model.Sha256
/-!
# Rendering used in every csv row: lower-case hex (C01)
-/
namespace Render

theorem hex_toList (bs : List UInt8) :
    (Sha.hex bs).toList = bs.flatMap fun b => [Nat.digitChar (b.toNat / 16), Nat.digitChar (b.toNat % 16)] := by
  simp [Sha.hex, String.toList_join, List.flatMap_map]

theorem digit_lower : ∀ n < 16, Nat.digitChar n ∈ ['0','1','2','3','4','5','6','7','8','9','a','b','c','d','e','f'] := by decide +kernel
theorem digit_val : ∀ n < 16, Hex.val (Nat.digitChar n) = some n := by decide +kernel

/-- scripts and hashes are rendered in lower-case hex, two characters per byte -/
theorem hex_lowercase (bs : List UInt8) :
    (Sha.hex bs).toList.length = 2 * bs.length ∧
    ∀ c ∈ (Sha.hex bs).toList, c ∈ ['0','1','2','3','4','5','6','7','8','9','a','b','c','d','e','f'] := by
  rw [hex_toList]
  constructor
  · simp [List.length_flatMap, List.map_const', List.sum_replicate_nat, Nat.mul_comm]
  · intro c hc
    simp only [List.mem_flatMap, List.mem_cons, List.not_mem_nil, or_false] at hc
    obtain ⟨b, _, rfl | rfl⟩ := hc
    · exact digit_lower _ (by have := b.toNat_lt; omega)
    · exact digit_lower _ (by omega)

theorem unhexGo_hex (bs : List UInt8) (acc : List UInt8) :
    Hex.unhexGo (bs.flatMap fun b => [Nat.digitChar (b.toNat / 16), Nat.digitChar (b.toNat % 16)]) acc = some (acc.reverse ++ bs) := by
  induction bs generalizing acc with
  | nil => simp [Hex.unhexGo]
  | cons b bs ih =>
    have hb := b.toNat_lt
    simp [Hex.unhexGo, digit_val _ (show b.toNat / 16 < 16 by omega), digit_val _ (show b.toNat % 16 < 16 by omega), ih,
      Nat.div_add_mod']

/-- nothing is lost or merged in a script/hash column -/
theorem unhex_hex (bs : List UInt8) : Hex.unhex (Sha.hex bs) = some bs := by
  unfold Hex.unhex
  rw [hex_toList, unhexGo_hex]
  rfl
end Render
