import Rbp.Proofs.Tokens
/-!
# Bare m-of-n multisig ⇔ the template `OP_m <key>{n} OP_n OP_CHECKMULTISIG` (C05)

`isMultisigLib_iff` reads `Script::is_multisig` at the level of instructions; `instrs_sound` / `instrs_enc` carry that to bytes.
-/
namespace S
open T (Form Tok)
open SM (toIns)

theorem keys_pushes (ps : List Bytes) (tail : List (Option Ins)) (a : Nat) :
    isMultisigLib.keys (ps.map (fun d => some (Ins.push d)) ++ tail) a = isMultisigLib.keys tail (a + ps.length) := by
  induction ps generalizing a with
  | nil => simp
  | cons d ps ih =>
    simp only [List.map_cons, List.cons_append, isMultisigLib.keys, List.length_cons]
    rw [ih]; congr 1; omega

theorem keys_shape : ∀ (l : List (Option Ins)) (a n : Nat), isMultisigLib.keys l a = some (n, [some (Ins.op 0xae)]) →
    ∃ (ps : List Bytes) (o : UInt8), l = ps.map (fun d => some (Ins.push d)) ++ [some (Ins.op o), some (Ins.op 0xae)] ∧
      n = a + ps.length ∧ (pushnum o = some n ∨ pushnum o = none)
  | [], a, n, h => by simp [isMultisigLib.keys] at h
  | none :: r, a, n, h => by simp [isMultisigLib.keys] at h
  | some (.push d) :: r, a, n, h => by
    obtain ⟨ps, o, hl, hn, ho⟩ := keys_shape r (a + 1) n h
    exact ⟨d :: ps, o, by simp [hl], by simp; omega, ho⟩
  | some (.op o) :: r, a, n, h => by
    rw [isMultisigLib.keys] at h
    refine ⟨[], o, ?_⟩
    cases hp : pushnum o with
    | none => simp only [hp] at h; cases h; exact ⟨rfl, rfl, .inr rfl⟩
    | some k =>
      simp only [hp] at h
      by_cases hk : k = a
      · rw [if_neg (not_not_intro hk)] at h; cases h; exact ⟨rfl, rfl, .inl (by rw [hk])⟩
      · rw [if_pos hk] at h; cases h

/-- what the instruction iterator reports as a push: OP_0 is the empty push -/
def IsKey (t : T.Tok) : Prop := (∃ f bs, t = T.Tok.push f bs) ∨ t = T.Tok.op 0

theorem toIns_push (t : T.Tok) (d : Bytes) (h : SM.toIns t = Ins.push d) : IsKey t := by
  cases t with
  | push f bs => exact .inl ⟨f, bs, rfl⟩
  | op b =>
    by_cases hb : b = 0
    · exact .inr (hb ▸ rfl)
    · rw [SM.toIns, if_neg hb] at h; cases h

theorem toIns_op (t : T.Tok) (b : UInt8) (h : SM.toIns t = Ins.op b) : t = T.Tok.op b ∧ b ≠ 0 := by
  cases t with
  | push f bs => cases h
  | op c =>
    by_cases hc : c = 0
    · rw [SM.toIns, if_pos hc] at h; cases h
    · rw [SM.toIns, if_neg hc] at h; cases h; exact ⟨rfl, hc⟩

/-- `Script::is_multisig` at the level of instructions; the opcode before `OP_CHECKMULTISIG` need not be a PUSHNUM, but if it
    is one it counts the pushes -/
theorem isMultisigLib_iff (s : Bytes) : isMultisigLib s = true ↔
    ∃ (m o : UInt8) (req : Nat) (ps : List Bytes),
      instrs s = some (.op m) :: (ps.map (fun d => some (Ins.push d)) ++ [some (.op o), some (.op 0xae)]) ∧
      pushnum m = some req ∧ req ≤ ps.length ∧ (pushnum o = some ps.length ∨ pushnum o = none) := by
  unfold isMultisigLib
  constructor
  · intro h
    split at h
    · rename_i m rest hi
      split at h
      · cases h
      · rename_i req hp
        split at h
        · cases h
        · rename_i n after hk
          split at h
          · cases h
          · split at h
            · obtain ⟨ps, o, rfl, rfl, ho⟩ := keys_shape rest 0 n hk
              exact ⟨m, o, req, ps, hi, hp, by omega, by simpa using ho⟩
            · cases h
    · cases h
  · rintro ⟨m, o, req, ps, hi, hp, hreq, ho⟩
    rw [hi]
    simp only [hp, keys_pushes, isMultisigLib.keys]
    rcases ho with ho | ho <;> simp [ho, Nat.not_lt.mpr hreq]

def keyData (t : T.Tok) : Bytes := match SM.toIns t with | .push d => d | .op _ => []

theorem toIns_key (t : T.Tok) (h : IsKey t) : SM.toIns t = Ins.push (keyData t) := by
  rcases h with ⟨f, bs, rfl⟩ | rfl
  · rfl
  · simp [keyData, SM.toIns]

theorem multisig_len (s : Bytes) (h : isMultisigLib s = true) : 3 ≤ s.length := by
  obtain ⟨m, o, req, ps, hi, -⟩ := (isMultisigLib_iff s).mp h
  have := (instrs_length_le s).2
  rw [hi] at this
  simp at this
  omega

theorem pushnum_eq_some {b : UInt8} {n : Nat} (h : pushnum b = some n) : 0x51 ≤ b.toNat ∧ b.toNat ≤ 0x60 ∧ n = b.toNat - 0x50 := by
  unfold pushnum at h
  split at h
  · cases h; exact ⟨‹_ ∧ _›.1, ‹_ ∧ _›.2, rfl⟩
  · cases h

theorem ofNat_pushnum {b : UInt8} (h1 : 0x51 ≤ b.toNat) (h2 : b.toNat ≤ 0x60) : UInt8.ofNat (0x50 + (b.toNat - 0x50)) = b := by
  apply UInt8.toNat_inj.mp
  simp; omega

theorem toNat_opN {n : Nat} (h : n ≤ 16) : (UInt8.ofNat (0x50 + n)).toNat = 0x50 + n :=
  UInt8.toNat_ofNat_of_lt' (by show _ < 256; omega)

theorem get_penult (x : Bytes) (o e : UInt8) : get (x ++ [o, e]) ((x ++ [o, e]).length - 2) = o := by
  have : (x ++ [o, e]).length - 2 = x.length := by simp
  rw [this, get, List.getD, List.getElem?_append_right (Nat.le_refl _)]
  simp

theorem isBareMultisig_iff (s : Bytes) : isBareMultisig s = true ↔
    ((instrs s).take 20).length ≤ 19 ∧ isMultisigLib s = true ∧
      0x51 ≤ (get s (s.length - 2)).toNat ∧ (get s (s.length - 2)).toNat ≤ 0x60 := by
  simp [isBareMultisig, and_assoc]

theorem bare_multisig_is_template (s : Bytes) (h : isBareMultisig s = true) :
    ∃ (m n : Nat) (ks : List T.Tok), 1 ≤ m ∧ m ≤ n ∧ n ≤ 16 ∧ ks.length = n ∧ (∀ k ∈ ks, k.WF ∧ IsKey k) ∧
      s = [UInt8.ofNat (0x50 + m)] ++ ks.flatMap T.Tok.enc ++ [UInt8.ofNat (0x50 + n), 0xae] := by
  obtain ⟨-, hlib, hlo, hhi⟩ := (isBareMultisig_iff s).mp h
  obtain ⟨mb, o, req, ps, hi, hp, hreq, ho⟩ := (isMultisigLib_iff s).mp hlib
  -- no error anywhere, so the script is the encoding of a token list with these instructions
  obtain ⟨toks, hwf, hs, hie⟩ := instrs_sound s (by
    rw [hi]; intro x hx
    simp only [List.mem_cons, List.mem_append, List.mem_map, List.not_mem_nil, or_false] at hx
    rcases hx with rfl | ⟨d, _, rfl⟩ | rfl | rfl <;> nofun)
  simp only [hi, eq_comm (a := _ :: _), List.map_eq_cons_iff, List.map_eq_append_iff, List.map_eq_nil_iff] at hie
  obtain ⟨t0, _, rfl, h0, ks, _, rfl, hks, e1, _, rfl, he1, e2, _, rfl, he2, rfl⟩ := hie
  obtain ⟨rfl, -⟩ := toIns_op t0 mb (Option.some.inj h0)
  obtain ⟨rfl, -⟩ := toIns_op e1 o (Option.some.inj he1)
  obtain ⟨rfl, -⟩ := toIns_op e2 0xae (Option.some.inj he2)
  have hscript : s = [mb] ++ ks.flatMap Tok.enc ++ [o, 0xae] := by
    rw [hs]; simp [List.flatMap_append, Tok.enc]
  have hlen : ks.length = ps.length := by simpa using congrArg List.length hks
  -- the wrapper's byte test makes `o` a PUSHNUM, which then counts the keys
  rw [hscript, get_penult] at hlo hhi
  obtain ⟨hm1, hm2, rfl⟩ := pushnum_eq_some hp
  have hn : ps.length = o.toNat - 0x50 := by
    rw [pushnum, if_pos ⟨hlo, hhi⟩] at ho
    rcases ho with ho | ho
    · exact (Option.some.inj ho).symm
    · cases ho
  refine ⟨mb.toNat - 0x50, ps.length, ks, by omega, hreq, by omega, hlen, fun k hk => ⟨hwf k (by simp [hk]), ?_⟩, ?_⟩
  · obtain ⟨d, _, hd⟩ := List.mem_map.mp (hks ▸ List.mem_map_of_mem (f := fun t => some (toIns t)) hk)
    exact toIns_push k d (Option.some.inj hd.symm)
  · rw [hscript, ofNat_pushnum hm1 hm2, hn, ofNat_pushnum hlo hhi]

theorem bare_multisig_first (s : Bytes) (h : isBareMultisig s = true) :
    ∃ m rest, s = m :: rest ∧ 0x51 ≤ m.toNat ∧ m.toNat ≤ 0x60 := by
  obtain ⟨m, n, ks, h1, h2, h3, -, -, rfl⟩ := bare_multisig_is_template s h
  have e := toNat_opN (Nat.le_trans h2 h3)
  exact ⟨_, _, rfl, by omega, by omega⟩

theorem toIns_pushnum (n : Nat) (h1 : 1 ≤ n) (h2 : n ≤ 16) :
    toIns (.op (UInt8.ofNat (0x50 + n))) = .op (UInt8.ofNat (0x50 + n)) ∧ pushnum (UInt8.ofNat (0x50 + n)) = some n ∧
    (Tok.op (UInt8.ofNat (0x50 + n))).WF := by
  have e := toNat_opN h2
  refine ⟨if_neg fun h => ?_, ?_, .inr (by omega)⟩
  · have := congrArg UInt8.toNat h; rw [e] at this; simp at this
  · rw [pushnum, e, if_pos (by omega)]; simp

theorem template_is_bare_multisig (m n : Nat) (ks : List T.Tok) (hm : 1 ≤ m) (hmn : m ≤ n) (hn : n ≤ 16)
    (hk : ks.length = n) (hwf : ∀ k ∈ ks, k.WF ∧ IsKey k) :
    isBareMultisig ([UInt8.ofNat (0x50 + m)] ++ ks.flatMap T.Tok.enc ++ [UInt8.ofNat (0x50 + n), 0xae]) = true := by
  obtain ⟨tm, pm, wm⟩ := toIns_pushnum m hm (by omega)
  obtain ⟨tn, pn, wn⟩ := toIns_pushnum n (by omega) hn
  have hi := SM.instrs_enc (.op (UInt8.ofNat (0x50 + m)) :: (ks ++ [.op (UInt8.ofNat (0x50 + n)), .op 0xae])) (by
    simp only [List.mem_cons, List.mem_append, List.not_mem_nil, or_false]
    rintro t (rfl | ht | rfl | rfl)
    · exact wm
    · exact (hwf t ht).1
    · exact wn
    · exact .inr (by decide))
  have hkm : ks.map (fun t => some (toIns t)) = (ks.map keyData).map (fun d => some (Ins.push d)) := by
    rw [List.map_map]
    exact List.map_congr_left fun k hk' => by simp only [Function.comp, toIns_key k (hwf k hk').2]
  rw [List.map_cons, List.map_append, hkm, tm, List.map_cons, List.map_cons, tn, show toIns (.op 0xae) = .op 0xae from rfl,
    List.flatMap_cons, List.flatMap_append, ← List.append_assoc] at hi
  change instrs ([UInt8.ofNat (0x50 + m)] ++ ks.flatMap Tok.enc ++ [UInt8.ofNat (0x50 + n), 0xae]) = _ at hi
  refine (isBareMultisig_iff _).mpr ⟨?_, (isMultisigLib_iff _).mpr ⟨_, _, m, _, hi, pm, ?_, .inl ?_⟩, ?_⟩
  · rw [hi]; simp [hk]; omega
  · rw [List.length_map, hk]; exact hmn
  · rw [List.length_map, hk]; exact pn
  · rw [get_penult, toNat_opN hn]; omega

/-- `OP_m <key>{n} OP_n OP_CHECKMULTISIG` with 1 ≤ m ≤ n ≤ 16 — every key any well-formed push, of any length and in any
    push form — is typed bare multisig -/
theorem bare_multisig_template (m n : Nat) (keys : List (T.Form × Bytes)) (hm : 1 ≤ m) (hmn : m ≤ n) (hn : n ≤ 16)
    (hk : keys.length = n) (hwf : ∀ p ∈ keys, (T.Tok.push p.1 p.2).WF) :
    isBareMultisig ([UInt8.ofNat (0x50 + m)] ++ keys.flatMap (fun p => (T.Tok.push p.1 p.2).enc) ++
      [UInt8.ofNat (0x50 + n), 0xae]) = true := by
  have := template_is_bare_multisig m n (keys.map fun p => .push p.1 p.2) hm hmn hn (by simpa using hk) (by
    simp only [List.mem_map]; rintro k ⟨p, hp, rfl⟩; exact ⟨hwf p hp, .inl ⟨_, _, rfl⟩⟩)
  rwa [List.flatMap_map] at this

/-- what a script typed bare multisig must look like at its two ends: first byte OP_1..OP_16, last byte OP_CHECKMULTISIG
    preceded by OP_1..OP_16, at most 19 instructions -/
theorem bare_multisig_ends (s : Bytes) (h : isBareMultisig s = true) :
    (∃ m rest, s = m :: rest ∧ 0x51 ≤ m.toNat ∧ m.toNat ≤ 0x60) ∧ 3 ≤ s.length ∧
    0x51 ≤ (get s (s.length - 2)).toNat ∧ (get s (s.length - 2)).toNat ≤ 0x60 ∧ ((instrs s).take 20).length ≤ 19 := by
  obtain ⟨h1, h2, h3, h4⟩ := (isBareMultisig_iff s).mp h
  exact ⟨bare_multisig_first s h, multisig_len s h2, h3, h4, h1⟩
end S
