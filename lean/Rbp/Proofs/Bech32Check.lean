import Rbp.Model.Addr
/-!
# Bech32 / Bech32m: the checksum the model appends always verifies (C05)

The checksum step is linear over xor, so a run of the state machine is the start state advanced, xor what each input contributes;
a 5-bit value is only shifted (no feedback) while it stays below bit 25, so the six appended values land in the six 5-bit fields.
-/
namespace Bech

theorem ite_xor (p q : Bool) (g : W) :
    (if (p ^^ q) then g else 0) = (if p then g else 0) ^^^ (if q then g else 0) := by
  cases p <;> cases q <;> simp

theorem xor_xor_xor_comm (a b c d : W) : (a ^^^ b) ^^^ (c ^^^ d) = (a ^^^ c) ^^^ (b ^^^ d) := by ac_rfl

theorem mix_xor (a b : W) : mix (a ^^^ b) = mix a ^^^ mix b := by
  simp only [mix, BitVec.getLsbD_xor, ite_xor]
  ac_rfl

theorem and_xor_right (a b m : W) : (a ^^^ b) &&& m = (a &&& m) ^^^ (b &&& m) := by
  ext i hi
  simp only [BitVec.getElem_and, BitVec.getElem_xor]
  cases a[i] <;> cases b[i] <;> cases m[i] <;> rfl

theorem T_xor (a b : W) : T (a ^^^ b) = T a ^^^ T b := by
  simp only [T, BitVec.ushiftRight_xor_distrib, mix_xor, and_xor_right, BitVec.shiftLeft_xor_distrib]
  exact xor_xor_xor_comm ..

theorem T_zero : T 0 = 0 := by decide

theorem step_lin (c d v w : W) : step (c ^^^ d) (v ^^^ w) = step c v ^^^ step d w := by
  simp only [step, T_xor]; exact xor_xor_xor_comm ..

theorem T_small (v : W) (h : v.toNat < 2^25) : T v = v <<< 5 := by
  have h1 : v >>> 25 = 0 := by
    apply BitVec.eq_of_toNat_eq
    simp [BitVec.toNat_ushiftRight, Nat.shiftRight_eq_div_pow]
    omega
  have h2 : v &&& 0x1ffffff#30 = v := by
    apply BitVec.eq_of_toNat_eq
    simp only [BitVec.toNat_and, BitVec.toNat_ofNat]
    have : (33554431 % 2^30) = 2^25 - 1 := by decide
    rw [this, Nat.and_two_pow_sub_one_eq_mod, Nat.mod_eq_of_lt h]
  rw [T, h1, h2]
  have : mix 0 = 0 := by decide
  rw [this]; simp

theorem polymod_append (a b : List W) : polymod (a ++ b) = b.foldl step (polymod a) := by
  simp [polymod, List.foldl_append]

theorem step_zero (c : W) : step c 0 = T c := by simp [step]

theorem shl_small (v : W) (k : Nat) (hv : v.toNat < 32) (hk : k ≤ 20) : (v <<< k).toNat < 2^25 := by
  rw [BitVec.toNat_shiftLeft, Nat.shiftLeft_eq]
  have h1 : v.toNat * 2^k < 32 * 2^k := Nat.mul_lt_mul_of_pos_right hv (Nat.two_pow_pos k)
  have h2 : 32 * 2^k ≤ 32 * 2^20 := Nat.mul_le_mul_left 32 (Nat.pow_le_pow_right (by omega) hk)
  have : v.toNat * 2^k < 2^25 := by omega
  exact Nat.lt_of_le_of_lt (Nat.mod_le _ _) this

theorem T_shl (v : W) (k : Nat) (hv : v.toNat < 32) (hk : k ≤ 20) : T (v <<< k) = v <<< (k + 5) := by
  rw [T_small _ (shl_small v k hv hk), BitVec.shiftLeft_add]

/-- `n` steps with zero input -/
def Tn : Nat → W → W
  | 0, c => c
  | n+1, c => Tn n (T c)

theorem Tn_xor : ∀ (n : Nat) (a b : W), Tn n (a ^^^ b) = Tn n a ^^^ Tn n b
  | 0, _, _ => rfl
  | n+1, a, b => by simp only [Tn, T_xor, Tn_xor n]

/-- what a list of input values contributes to the final state -/
def contrib : List W → W
  | [] => 0
  | v :: vs => Tn vs.length v ^^^ contrib vs

theorem foldl_step_lin : ∀ (vs : List W) (c : W), vs.foldl step c = Tn vs.length c ^^^ contrib vs
  | [], c => by simp [Tn, contrib]
  | v :: vs, c => by
    simp only [List.foldl_cons, step, List.length_cons, Tn, contrib]
    rw [foldl_step_lin vs, Tn_xor, BitVec.xor_assoc]

theorem zeros_steps (k : Nat) (c : W) : (List.replicate k (0 : W)).foldl step c = Tn k c := by
  induction k generalizing c with
  | zero => rfl
  | succ k ih => simp only [List.replicate_succ, List.foldl_cons, step_zero, ih, Tn]

theorem Tn_shl (v : W) (hv : v.toNat < 32) : ∀ j k : Nat, k + 5 * j ≤ 25 → Tn j (v <<< k) = v <<< (k + 5 * j)
  | 0, _, _ => rfl
  | j + 1, k, h => by
    rw [Tn, T_shl v k hv (by omega), Tn_shl v hv j (k + 5) (by omega), Nat.mul_succ, Nat.add_right_comm, Nat.add_assoc k]

/-- `v5` is not shifted, so nothing is asked of it -/
theorem six_steps (c v0 v1 v2 v3 v4 v5 : W) (h0 : v0.toNat < 32) (h1 : v1.toNat < 32) (h2 : v2.toNat < 32)
    (h3 : v3.toNat < 32) (h4 : v4.toNat < 32) :
    [v0, v1, v2, v3, v4, v5].foldl step c =
      Tn 6 c ^^^ (v0 <<< 25 ^^^ v1 <<< 20 ^^^ v2 <<< 15 ^^^ v3 <<< 10 ^^^ v4 <<< 5 ^^^ v5 <<< 0) := by
  have s (v : W) (hv : v.toNat < 32) (j : Nat) (hj : 5 * j ≤ 25) : Tn j v = v <<< (5 * j) := by
    have := Tn_shl v hv j 0 (by omega)
    rwa [BitVec.shiftLeft_zero, Nat.zero_add] at this
  rw [foldl_step_lin]
  simp only [List.length_cons, List.length_nil, contrib, s v0 h0 5 (by omega), s v1 h1 4 (by omega), s v2 h2 3 (by omega),
    s v3 h3 2 (by omega), s v4 h4 1 (by omega), Tn, BitVec.shiftLeft_zero, BitVec.xor_assoc]
  rw [show v5 ^^^ (0 : W) = v5 from BitVec.xor_zero]

theorem and_xor_left (x a b : W) : x &&& a ^^^ x &&& b = x &&& (a ^^^ b) := by
  rw [BitVec.and_comm x a, BitVec.and_comm x b, ← and_xor_right, BitVec.and_comm]

theorem fields (x : W) :
    ((x >>> 25) &&& 31) <<< 25 ^^^ ((x >>> 20) &&& 31) <<< 20 ^^^ ((x >>> 15) &&& 31) <<< 15 ^^^
    ((x >>> 10) &&& 31) <<< 10 ^^^ ((x >>> 5) &&& 31) <<< 5 ^^^ ((x >>> 0) &&& 31) <<< 0 = x := by
  -- each field is `x` under a mask; the six masks xor to all ones (checked by evaluation in the last step)
  have field (k : Nat) : ((x >>> k) &&& 31) <<< k = x &&& (BitVec.allOnes 30 <<< k &&& (31 : W) <<< k) := by
    rw [BitVec.shiftLeft_and_distrib, BitVec.shiftLeft_ushiftRight, BitVec.and_assoc]
  rw [field, field, field, field, field, field, and_xor_left, and_xor_left, and_xor_left, and_xor_left, and_xor_left]
  exact BitVec.and_allOnes
end Bech

namespace A
open Bech

theorem and31_lt (x : W) : (x &&& 31).toNat < 32 := by
  rw [BitVec.toNat_and]; exact Nat.lt_succ_of_le Nat.and_le_right

theorem checksum_valid (const : W) (vs : List Nat) :
    polymod ((vs ++ checksum const vs).map (BitVec.ofNat 30)) = const := by
  rw [List.map_append, polymod_append]
  have hpm : polymod (vs.map (BitVec.ofNat 30) ++ List.replicate 6 0) = Tn 6 (polymod (vs.map (BitVec.ofNat 30))) := by
    rw [polymod_append, zeros_steps]
  generalize polymod (vs.map (BitVec.ofNat 30)) = c at hpm ⊢
  unfold checksum
  rw [hpm]
  generalize hp : Tn 6 c ^^^ const = pm
  have hr : List.range 6 = [0, 1, 2, 3, 4, 5] := by decide
  simp only [hr, List.map_cons, List.map_nil, BitVec.ofNat_toNat, BitVec.setWidth_eq, Nat.reduceSub, Nat.reduceMul]
  rw [six_steps c _ _ _ _ _ _ (and31_lt _) (and31_lt _) (and31_lt _) (and31_lt _) (and31_lt _), fields, ← hp]
  rw [← BitVec.xor_assoc, BitVec.xor_self]
  exact BitVec.zero_xor
end A
