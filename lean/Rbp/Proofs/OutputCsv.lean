import Rbp.Model.OutputN
import Rbp.Proofs.RunSpec
/-!
# The write program of csvdump, and what its four files must contain (C10 ∘ C01)
-/
namespace Run
open CB W

def lineBytes (s : String) : Bytes := s.toUTF8.toList ++ [10]

/-- `CsvDump::on_block`: the block row to file 0; then per transaction its row to file 1, its input rows to file 2, its output
    rows to file 3 — four writers, interleaved in this order -/
def csvWritesBlock (ver : UInt8) (b : EBlock) : List (Nat × Bytes) :=
  let bh := Csv.hashHex (A.sha256d b.blk.header.toBytes)
  (0, lineBytes (Csv.rows ver b.size b.height b.blk).1) ::
    b.blk.txs.flatMap fun t =>
      (1, lineBytes (txRowsR ver bh t).1) :: ((txRowsR ver bh t).2.1.map fun l => (2, lineBytes l)) ++
        ((txRowsR ver bh t).2.2.map fun l => (3, lineBytes l))

def csvWrites (ver : UInt8) (bs : List EBlock) : List (Nat × Bytes) := bs.flatMap (csvWritesBlock ver)

theorem content_append (i : Nat) (a b : List (Nat × Bytes)) : ON.content i (a ++ b) = ON.content i a ++ ON.content i b := by
  simp [ON.content, List.filter_append]

theorem content_flatMap {α} (i : Nat) (f : α → List (Nat × Bytes)) (l : List α) :
    ON.content i (l.flatMap f) = l.flatMap (fun a => ON.content i (f a)) := by
  induction l with
  | nil => rfl
  | cons a l ih => simp [List.flatMap_cons, content_append, ih]

theorem content_cons (i j : Nat) (d : Bytes) (rest : List (Nat × Bytes)) :
    ON.content i ((j, d) :: rest) = (if j = i then d else []) ++ ON.content i rest := by
  by_cases h : j = i <;> simp [ON.content, h]

theorem content_map_tag (i j : Nat) (ls : List String) :
    ON.content i (ls.map fun l => (j, lineBytes l)) = if j = i then ls.flatMap lineBytes else [] := by
  induction ls with
  | nil => simp [ON.content]
  | cons l ls ih => rw [List.map_cons, content_cons, ih]; split <;> simp

theorem csv_content_block (ver : UInt8) (b : EBlock) :
    ON.content 0 (csvWritesBlock ver b) = lineBytes (Csv.rows ver b.size b.height b.blk).1 ∧
    ON.content 1 (csvWritesBlock ver b) = (Csv.rows ver b.size b.height b.blk).2.1.flatMap lineBytes ∧
    ON.content 2 (csvWritesBlock ver b) = (Csv.rows ver b.size b.height b.blk).2.2.1.flatMap lineBytes ∧
    ON.content 3 (csvWritesBlock ver b) = (Csv.rows ver b.size b.height b.blk).2.2.2.flatMap lineBytes := by
  have key : ∀ i, ON.content i (csvWritesBlock ver b) =
      (if 0 = i then lineBytes (Csv.rows ver b.size b.height b.blk).1 else []) ++
      b.blk.txs.flatMap fun t =>
        (if 1 = i then lineBytes (txRowsR ver (Csv.hashHex (A.sha256d b.blk.header.toBytes)) t).1 else []) ++
        ((if 2 = i then (txRowsR ver (Csv.hashHex (A.sha256d b.blk.header.toBytes)) t).2.1.flatMap lineBytes else []) ++
         (if 3 = i then (txRowsR ver (Csv.hashHex (A.sha256d b.blk.header.toBytes)) t).2.2.flatMap lineBytes else [])) := by
    intro i
    simp only [csvWritesBlock, content_cons, content_flatMap, content_append, content_map_tag, List.append_assoc]
  rw [rows_eq_txRowsR]
  refine ⟨?_, ?_, ?_, ?_⟩
  · rw [key 0]; simp [rows_eq_txRowsR]
  · rw [key 1]; simp [List.flatMap_map]
  · rw [key 2]; simp [List.flatMap_map, List.flatMap_assoc]
  · rw [key 3]; simp [List.flatMap_map, List.flatMap_assoc]
end Run
