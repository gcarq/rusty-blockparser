import Rbp.Proofs.Templates
import Rbp.Proofs.Multisig
/-!
# The Bitcoin/testnet3 cascade is a set of pairwise exclusive templates (C05)

A verdict is reached only through its own test (`cascade_sound`), and each test excludes everything the cascade tests
before it (`p2pk_excl` … `multisig_excl`), so the reported type does not depend on the order of the tests:
`pattern = X ↔ template X` (`C05.type_iff_template`).
-/
namespace S

theorem head_get (s : Bytes) (b : UInt8) (h : 0 < s.length) : s.head? = some b ↔ get s 0 = b := by
  cases s with
  | nil => simp at h
  | cons x r => simp [get, List.getD]

theorem witnessVersion_cons (a b : UInt8) (prog : Bytes) :
    witnessVersion (a :: b :: prog) =
      if 2 ≤ prog.length ∧ prog.length ≤ 40 ∧ b.toNat = prog.length then (if a.toNat = 0 then some 0 else pushnum a) else none := by
  rw [witnessVersion, show get (a :: b :: prog) 0 = a from rfl, show get (a :: b :: prog) 1 = b from rfl,
    show (a :: b :: prog).length = prog.length + 2 from rfl, Nat.add_sub_cancel]
  by_cases h : 2 ≤ prog.length ∧ prog.length ≤ 40 ∧ b.toNat = prog.length
  · rw [if_pos h, if_pos (by omega)]
    simp only [if_neg (show ¬ (b.toNat < 2 ∨ b.toNat > 40) by omega), if_neg (not_not_intro h.2.2.symm)]; rfl
  · rw [if_neg h]
    by_cases h1 : b.toNat < 2 ∨ b.toNat > 40
    · simp only [if_pos h1, ite_self]
    · simp only [if_neg h1, if_pos (show prog.length ≠ b.toNat by omega), ite_self]

/-- the byte template `<OP_0 | OP_1..OP_16> <len 2..40> <len bytes>` -/
theorem witnessVersion_iff (s : Bytes) (v : Nat) :
    witnessVersion s = some v ↔
      ∃ prog : Bytes, 2 ≤ prog.length ∧ prog.length ≤ 40 ∧ v ≤ 16 ∧
        s = (if v = 0 then 0x00 else UInt8.ofNat (0x50 + v)) :: UInt8.ofNat prog.length :: prog := by
  constructor
  · intro h
    match s with
    | [] | [_] => cases h
    | a :: b :: prog =>
      rw [witnessVersion_cons] at h
      split at h
      · rename_i hc
        have hb : b = UInt8.ofNat prog.length := UInt8.toNat_inj.mp (by rw [hc.2.2]; simp; omega)
        refine ⟨prog, hc.1, hc.2.1, ?_⟩
        split at h
        · cases h
          have : a = 0 := UInt8.toNat_inj.mp ‹_›
          exact ⟨by omega, by rw [if_pos rfl, this, hb]⟩
        · obtain ⟨h1, h2, rfl⟩ := pushnum_eq_some h
          exact ⟨by omega, by rw [if_neg (by omega), ofNat_pushnum h1 h2, hb]⟩
      · cases h
  · rintro ⟨prog, h2, h40, hv, rfl⟩
    have e2 : (UInt8.ofNat prog.length).toNat = prog.length := by simp; omega
    rw [witnessVersion_cons, if_pos ⟨h2, h40, e2⟩]
    by_cases h0 : v = 0
    · subst h0; rfl
    · rw [if_neg h0, if_neg (by rw [toNat_opN hv]; omega), (toIns_pushnum v (by omega) hv).2.1]

theorem classify_pushnum (b : UInt8) (h1 : 0x51 ≤ b.toNat) (h2 : b.toNat ≤ 0x60) : classify b = .pushnum := by
  unfold classify
  simp only
  rw [if_neg (by omega), if_neg (by omega), if_neg (by omega), if_neg (by omega), if_pos (by omega)]

theorem witness_not_multisig (s : Bytes) (v : Nat) (h : witnessVersion s = some v) : isMultisigLib s = false := by
  obtain ⟨prog, h2, h40, hv, rfl⟩ := (witnessVersion_iff s v).mp h
  have e2 : (UInt8.ofNat prog.length).toNat = prog.length := by simp; omega
  have hpush : instrs (UInt8.ofNat prog.length :: prog) = [some (.push prog)] := by
    rw [instrs_direct _ _ (by omega), e2, if_pos (Nat.le_refl _), List.take_length, List.drop_length, instrs_nil]
  refine Bool.eq_false_iff.mpr fun hm => ?_
  obtain ⟨m, o, req, ps, hi, -⟩ := (isMultisigLib_iff _).mp hm
  -- the program has two instructions (or starts with the empty push OP_0), a multisig at least three
  have hlen := congrArg List.length hi
  by_cases h0 : v = 0
  · rw [if_pos h0, instrs_op _ _ (.inl rfl)] at hi; cases hi
  · rw [if_neg h0, instrs_op _ _ (.inr (by rw [toNat_opN hv]; omega)), hpush] at hlen
    simp at hlen

theorem p2pk_excl (s k : Bytes) (h : isP2pk s = some k) : s.head? ≠ some 0x6a ∧ unspendableFirst s = false := by
  obtain ⟨hl, rfl⟩ := (isP2pk_iff s k).mp h
  rcases hl with hl | hl <;> simp [hl, unspendableFirst] <;> decide

theorem p2pkh_excl (s : Bytes) (h : isP2pkh s = true) :
    s.head? ≠ some 0x6a ∧ unspendableFirst s = false ∧ isP2pk s = none := by
  obtain ⟨hh, hl, rfl⟩ := (isP2pkh_iff s).mp h
  refine ⟨by simp, by simp [unspendableFirst]; decide, by simp [isP2pk, hl]⟩

theorem p2sh_excl (s : Bytes) (h : isP2sh s = true) :
    s.head? ≠ some 0x6a ∧ unspendableFirst s = false ∧ isP2pk s = none ∧ isP2pkh s = false := by
  obtain ⟨hh, hl, rfl⟩ := (isP2sh_iff s).mp h
  refine ⟨by simp, by simp [unspendableFirst]; decide, by simp [isP2pk, hl], by simp [isP2pkh, hl]⟩

/-- each test made before the witness-program test asks for a first byte of its own, none of them OP_0 or OP_1..OP_16 -/
theorem first_excl (a : UInt8) (rest : Bytes) (ha : a.toNat = 0 ∨ (0x51 ≤ a.toNat ∧ a.toNat ≤ 0x60)) :
    (a :: rest).head? ≠ some 0x6a ∧ unspendableFirst (a :: rest) = false ∧ isP2pk (a :: rest) = none ∧
    isP2pkh (a :: rest) = false ∧ isP2sh (a :: rest) = false := by
  have hu : ¬ (classify a = .ret ∨ classify a = .illegal) := by
    rcases ha with h | ⟨h1, h2⟩
    · rw [classify_le a (by omega)]; simp
    · rw [classify_pushnum a h1 h2]; simp
  have ne : ∀ c : UInt8, c.toNat ≠ 0 → ¬ (0x51 ≤ c.toNat ∧ c.toNat ≤ 0x60) → ¬ a = c := by
    rintro c h0 h1 rfl; exact ha.elim h0 h1
  refine ⟨by simpa using ne 0x6a (by decide) (by decide), by simpa [unspendableFirst] using hu, ?_, ?_, ?_⟩
  · simp [isP2pk, get_cons_zero, ne 0x41 (by decide) (by decide), ne 0x21 (by decide) (by decide)]
  · simp [isP2pkh, get_cons_zero, ne 0x76 (by decide) (by decide)]
  · simp [isP2sh, get_cons_zero, ne 0xa9 (by decide) (by decide)]

theorem witness_excl (s : Bytes) (v : Nat) (h : witnessVersion s = some v) :
    s.head? ≠ some 0x6a ∧ unspendableFirst s = false ∧ isP2pk s = none ∧ isP2pkh s = false ∧ isP2sh s = false := by
  obtain ⟨prog, _, _, hv, rfl⟩ := (witnessVersion_iff s v).mp h
  refine first_excl _ _ ?_
  split
  · exact .inl rfl
  · rw [toNat_opN hv]; omega

theorem multisig_excl (s : Bytes) (h : isBareMultisig s = true) :
    s.head? ≠ some 0x6a ∧ unspendableFirst s = false ∧ isP2pk s = none ∧ isP2pkh s = false ∧ isP2sh s = false ∧
    witnessVersion s = none := by
  have hm := ((isBareMultisig_iff s).mp h).2.1
  obtain ⟨m, rest, rfl, h1, h2⟩ := bare_multisig_first s h
  obtain ⟨a, b, c, d, e⟩ := first_excl m rest (.inr ⟨h1, h2⟩)
  refine ⟨a, b, c, d, e, ?_⟩
  cases hw : witnessVersion (m :: rest) with
  | none => rfl
  | some v => rw [witness_not_multisig _ v hw] at hm; cases hm

/-- the payload `evalBtc` reports for a script that starts with OP_RETURN -/
def opPayload (s : Bytes) : Bytes :=
  match ((instrs s)[1]? : Option (Option Ins)) with
  | some (some (Ins.push d)) => if L.valid d then d else []
  | _ => []

/-- the decision cascade of `eval_from_bytes_bitcoin` on the type alone -/
def cascade (s : Bytes) : Pattern :=
  if s.head? = some 0x6a then .opReturn (opPayload s)
  else if unspendableFirst s then .unspendable
  else match isP2pk s with
    | some _ => .p2pk
    | none =>
      if isP2pkh s then .p2pkh
      else if isP2sh s then .p2sh
      else if s.length = 22 ∧ witnessVersion s = some 0 ∧ get s 1 = 0x14 then .p2wpkh
      else if s.length = 34 ∧ witnessVersion s = some 0 ∧ get s 1 = 0x20 then .p2wsh
      else if s.length = 34 ∧ witnessVersion s = some 1 ∧ get s 1 = 0x20 then .p2tr
      else if (witnessVersion s).isSome then .witnessProgram
      else if isBareMultisig s then .multisig
      else .notRecognised

theorem pattern_eq_cascade (testnet : Bool) (s : Bytes) : (evalBtc testnet s).pattern = cascade s := by
  unfold evalBtc cascade opPayload
  simp only [apply_ite Eval.pattern]
  cases isP2pk s <;> simp only [apply_ite Eval.pattern] <;> rfl

/-- on a witness program the second byte repeats the length, so each of the cascade's three segwit tests is a test of
    length and version -/
theorem witness_test (s : Bytes) (v : Nat) (h : witnessVersion s = some v) (w : Nat) (b : UInt8) (n : Nat) (hn : b.toNat + 2 = n) :
    (s.length = n ∧ witnessVersion s = some w ∧ get s 1 = b) ↔ (s.length = n ∧ v = w) := by
  obtain ⟨prog, _, h40, _, rfl⟩ := (witnessVersion_iff s v).mp h
  rw [h, Option.some.injEq, and_congr_right_iff]
  intro hl
  refine and_iff_left (UInt8.toNat_inj.mp ?_)
  rw [show get (_ :: UInt8.ofNat prog.length :: prog) 1 = UInt8.ofNat prog.length from rfl, UInt8.toNat_ofNat_of_lt' (by show _ < 256; omega)]
  simp only [List.length_cons] at hl; omega

theorem cascade_p2pk (s k : Bytes) (h : isP2pk s = some k) : cascade s = .p2pk := by
  obtain ⟨a, b⟩ := p2pk_excl s k h
  simp [cascade, a, b, h]

theorem cascade_p2pkh (s : Bytes) (h : isP2pkh s = true) : cascade s = .p2pkh := by
  obtain ⟨a, b, c⟩ := p2pkh_excl s h
  simp [cascade, a, b, c, h]

theorem cascade_p2sh (s : Bytes) (h : isP2sh s = true) : cascade s = .p2sh := by
  obtain ⟨a, b, c, d⟩ := p2sh_excl s h
  simp [cascade, a, b, c, d, h]

theorem cascade_witness (s : Bytes) (v : Nat) (h : witnessVersion s = some v) :
    cascade s = if s.length = 22 ∧ v = 0 then .p2wpkh else if s.length = 34 ∧ v = 0 then .p2wsh
      else if s.length = 34 ∧ v = 1 then .p2tr else .witnessProgram := by
  obtain ⟨a, b, c, d, e⟩ := witness_excl s v h
  have t := witness_test s v h
  simp only [cascade, if_neg a, b, c, d, e, t 0 0x14 22 rfl, t 0 0x20 34 rfl, t 1 0x20 34 rfl]
  rw [h]; rfl

theorem cascade_multisig (s : Bytes) (h : isBareMultisig s = true) : cascade s = .multisig := by
  obtain ⟨a, b, c, d, e, f⟩ := multisig_excl s h
  simp [cascade, a, b, c, d, e, f, h]

/-- the template each verdict stands for -/
def Verdict (s : Bytes) : Pattern → Prop
  | .opReturn _ => s.head? = some 0x6a
  | .unspendable => s.head? ≠ some 0x6a ∧ unspendableFirst s = true
  | .p2pk => ∃ k, isP2pk s = some k
  | .p2pkh => isP2pkh s = true
  | .p2sh => isP2sh s = true
  | .p2wpkh => s.length = 22 ∧ witnessVersion s = some 0
  | .p2wsh => s.length = 34 ∧ witnessVersion s = some 0
  | .p2tr => s.length = 34 ∧ witnessVersion s = some 1
  | .witnessProgram => ∃ v, witnessVersion s = some v ∧ ¬ (s.length = 22 ∧ v = 0) ∧ ¬ (s.length = 34 ∧ (v = 0 ∨ v = 1))
  | .multisig => isBareMultisig s = true
  | .notRecognised => True

theorem Verdict.ite {s : Bytes} {c : Prop} [Decidable c] {p q : Pattern} (hp : c → Verdict s p) (hq : ¬ c → Verdict s q) :
    Verdict s (if c then p else q) := iteInduction hp hq

theorem cascade_sound (s : Bytes) : Verdict s (cascade s) := by
  unfold cascade
  refine .ite id fun h1 => .ite (fun h2 => ⟨h1, h2⟩) fun _ => ?_
  cases hk : isP2pk s with
  | some k => exact ⟨k, hk⟩
  | none =>
  refine .ite id fun _ => .ite id fun _ => .ite (fun c => ⟨c.1, c.2.1⟩) fun c3 => .ite (fun c => ⟨c.1, c.2.1⟩) fun c4 =>
    .ite (fun c => ⟨c.1, c.2.1⟩) fun c5 => .ite (fun c6 => ?_) fun _ => .ite id fun _ => trivial
  obtain ⟨v, hv⟩ := Option.isSome_iff_exists.mp c6
  have t := witness_test s v hv
  rw [t 0 0x14 22 rfl] at c3; rw [t 0 0x20 34 rfl] at c4; rw [t 1 0x20 34 rfl] at c5
  exact ⟨v, hv, c3, fun ⟨a, b⟩ => b.elim (fun b => c4 ⟨a, b⟩) fun b => c5 ⟨a, b⟩⟩

theorem evalBtc_eq (testnet : Bool) (s : Bytes) (h1 : s.head? ≠ some 0x6a) (h2 : unspendableFirst s = false)
    (hk : isP2pk s = none) :
    evalBtc testnet s = ⟨cascade s,
      if isP2pkh s then some (A.base58check (pkPrefix testnet :: (s.drop 3).take 20))
      else if isP2sh s then some (A.base58check (shPrefix testnet :: (s.drop 2).take 20))
      else match witnessVersion s with
        | some v => if v = 0 ∧ (s.drop 2).length ≠ 20 ∧ (s.drop 2).length ≠ 32 then none else some (A.segwitAddr (hrp testnet) v (s.drop 2))
        | none => none⟩ := by
  rw [← pattern_eq_cascade testnet]
  refine Eq.trans (b := ⟨(evalBtc testnet s).pattern, (evalBtc testnet s).address⟩) rfl (congrArg _ ?_)
  unfold evalBtc
  simp only [if_neg h1, h2, hk, Bool.false_eq_true, if_false, apply_ite Eval.address, ite_self]
  rfl

theorem eval_witness (testnet : Bool) (s : Bytes) (v : Nat) (hw : witnessVersion s = some v)
    (ha : ¬ (v = 0 ∧ (s.drop 2).length ≠ 20 ∧ (s.drop 2).length ≠ 32)) :
    evalBtc testnet s = ⟨cascade s, some (A.segwitAddr (hrp testnet) v (s.drop 2))⟩ := by
  obtain ⟨a, b, c, d, e⟩ := witness_excl s v hw
  rw [evalBtc_eq testnet s a b c, d, e, hw]
  simp only [Bool.false_eq_true, if_false, if_neg ha]

theorem eval_p2pkh_of (testnet : Bool) (s : Bytes) (h : isP2pkh s = true) :
    evalBtc testnet s = ⟨.p2pkh, some (A.base58check (pkPrefix testnet :: (s.drop 3).take 20))⟩ := by
  obtain ⟨a, b, c⟩ := p2pkh_excl s h
  rw [evalBtc_eq testnet s a b c, cascade_p2pkh s h, if_pos h]

theorem eval_p2sh_of (testnet : Bool) (s : Bytes) (h : isP2sh s = true) :
    evalBtc testnet s = ⟨.p2sh, some (A.base58check (shPrefix testnet :: (s.drop 2).take 20))⟩ := by
  obtain ⟨a, b, c, d⟩ := p2sh_excl s h
  rw [evalBtc_eq testnet s a b c, cascade_p2sh s h, d, if_neg Bool.false_ne_true, if_pos h]

theorem eval_p2pk_of (testnet : Bool) (s k : Bytes) (h : isP2pk s = some k) :
    evalBtc testnet s = ⟨.p2pk, some (A.base58check (pkPrefix testnet :: A.hash160 k))⟩ := by
  obtain ⟨a, b⟩ := p2pk_excl s k h
  unfold evalBtc
  simp only [if_neg a, b, h, Bool.false_eq_true, if_false]
  rfl
end S
