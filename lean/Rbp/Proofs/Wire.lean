import Rbp.Spec.Chain
/-!
# Reader ∘ encoder round trips (C01, C12, C14)

`Reads p e a`: the reader `p` consumes exactly `e` and yields `a`, whatever follows.  The readers are `do` blocks, so
`Reads` is closed under `>>=` (encodings concatenate) and every reader's round trip is its `do` block read line by line.
-/
namespace W

theorem toLE_length (k n : Nat) : (toLE k n).length = k := by
  induction k generalizing n <;> simp [toLE, *]

theorem le_toLE (k n : Nat) (h : n < 256 ^ k) : le (toLE k n) = n := by
  induction k generalizing n with
  | zero => simp [toLE, le] at *; omega
  | succ k ih =>
    have := ih (n / 256) (by rw [Nat.pow_succ] at h; omega)
    simp only [le] at this
    simp only [toLE, le, List.foldr_cons, this, UInt8.toNat_ofNat_of_lt' (Nat.mod_lt n (by decide) : n % 256 < 256)]
    omega

def Reads {α} (p : P α) (e : Bytes) (a : α) : Prop := ∀ rest, p (e ++ rest) = some (a, rest)

namespace Reads
variable {α β : Type} {p q : P α} {k : α × Bytes → Option (β × Bytes)} {e e₁ e₂ : Bytes} {a : α} {b : β} {c : Prop} [Decidable c]

theorem of_eq {e' : Bytes} (he : e = e') (h : Reads p e' a) : Reads p e a := he ▸ h

theorem pure (a : α) : Reads (fun bs => some (a, bs)) [] a := fun _ => rfl

/-- the continuation is kept as it stands in the elaborated `do` block (a function of the pair), so that `exact` finds it by
    plain unification -/
theorem bind (h₁ : Reads p e₁ a) (h₂ : Reads (fun bs => k (a, bs)) e₂ b) : Reads (fun bs => p bs >>= k) (e₁ ++ e₂) b :=
  fun rest => by
    rw [List.append_assoc]
    exact (congrArg (· >>= k) (h₁ _)).trans (h₂ rest)

theorem map {f : α × Bytes → β × Bytes} (h : Reads p e a) (hf : ∀ r, f (a, r) = (b, r)) : Reads (fun bs => (p bs).map f) e b :=
  fun rest => (congrArg (Option.map f) (h rest)).trans (congrArg some (hf rest))

theorem ite_pos (hc : c) (h : Reads p e a) : Reads (fun bs => if c then p bs else q bs) e a :=
  fun rest => (if_pos hc).trans (h rest)

theorem ite_neg (hc : ¬ c) (h : Reads q e a) : Reads (fun bs => if c then p bs else q bs) e a :=
  fun rest => (if_neg hc).trans (h rest)

/-- a `let x ← if c then p else q` of a `do` block: the elaborator has pushed the continuation into both branches -/
theorem bind_ite (h₁ : Reads (fun bs => if c then p bs else q bs) e₁ a) (h₂ : Reads (fun bs => k (a, bs)) e₂ b) :
    Reads (fun bs => if c then p bs >>= k else q bs >>= k) (e₁ ++ e₂) b := by
  by_cases hc : c
  · exact ite_pos hc (bind (fun r => (if_pos hc).symm.trans (h₁ r)) h₂)
  · exact ite_neg hc (bind (fun r => (if_neg hc).symm.trans (h₁ r)) h₂)

theorem take {xs : Bytes} {n : Nat} (h : xs.length = n) : Reads (take n) xs xs := fun rest => by
  simp [W.take, ← h]

theorem readLE {k n : Nat} (h : n < 256 ^ k) : Reads (readLE k) (toLE k n) n := fun rest => by
  simp [W.readLE, take (toLE_length k n) rest, le_toLE k n h]

theorem takeU32 {xs : Bytes} {n : Nat} (h : n = xs.length) (h32 : n < 2 ^ 32) : Reads (takeU32 n) xs xs := by
  rw [W.takeU32, Nat.mod_eq_of_lt h32]; exact take h.symm

theorem readU8 (b : UInt8) : Reads readU8 [b] b := fun _ => rfl

theorem varUint {c : Count} (h : c.ok) : Reads readVarUint c.enc ⟨c.v, c.enc⟩ := fun rest => by
  rcases c with ⟨w, v⟩
  cases w <;> simp only [Count.ok] at h
  · simp [Count.enc, readVarUint, UInt8.toNat_ofNat_of_lt' (Nat.lt_trans h (by decide) : v < 256), h]
  all_goals simp [Count.enc, readVarUint, readLE h rest]

theorem readN {A R : Type} {p : P R} {enc : A → Bytes} {toR : A → R} {ok : A → Prop} {n : Nat} {xs : List A} (hn : n = xs.length)
    (hp : ∀ x, ok x → Reads p (enc x) (toR x)) (h : ∀ x ∈ xs, ok x) : Reads (readN p n) (xs.flatMap enc) (xs.map toR) := by
  subst hn
  induction xs with
  | nil => exact pure []
  | cons x xs ih =>
    exact of_eq (by simp) <| bind (hp x (h x (by simp))) <| bind (ih fun y hy => h y (by simp [hy])) (pure _)

end Reads

theorem readIn_enc (i : TxIn) (h : i.ok) : Reads readIn i.enc i.toR := by
  obtain ⟨hp, hi, hl, hs, h32, hq⟩ := h
  exact .of_eq (by simp [TxIn.enc]) <| .bind (.take hp) <| .bind (.readLE hi) <| .bind (.varUint hl) <|
    .bind (.takeU32 hs h32) <| .bind (.readLE hq) (.pure _)

theorem readOut_enc (o : TxOut) (h : o.ok) : Reads readOut o.enc o.toR := by
  obtain ⟨hv, hl, hs, h32⟩ := h
  exact .of_eq (by simp [TxOut.enc]) <| .bind (.readLE hv) <| .bind (.varUint hl) <| .bind (.takeU32 hs h32) (.pure _)

theorem skipItem_enc (w : WitItem) (h : w.ok) : Reads skipItem w.enc () := by
  obtain ⟨hl, hs, h32⟩ := h
  exact .of_eq (by simp [WitItem.enc]) <| .bind (.varUint hl) <| .bind (.takeU32 hs h32) (.pure _)

theorem skipStack_enc (s : WitStack) (h : s.ok) : Reads skipStack s.enc () := by
  obtain ⟨hc, hn, hi⟩ := h
  exact .of_eq (by simp [WitStack.enc]) <| .bind (.varUint hc) <|
    .bind (.readN hn skipItem_enc hi) (.pure _)

theorem RIn_toBytes (i : TxIn) : i.toR.toBytes = i.enc := by
  simp [RIn.toBytes, TxIn.toR, TxIn.enc, List.append_assoc]
theorem ROut_toBytes (o : TxOut) : o.toR.toBytes = o.enc := by
  simp [ROut.toBytes, TxOut.toR, TxOut.enc, List.append_assoc]
theorem toBytes_stripped (t : Tx) : t.toR.toBytes = t.encStripped := by
  simp [RTx.toBytes, Tx.toR, Tx.encStripped, Tx.encBody, List.flatMap_map, RIn_toBytes, ROut_toBytes,
    List.append_assoc]

/-- what `readTx` does once version, flag and input count are known: the join point of its `do` block, copied from it line for
    line.  `readTx_enc` and `mono_readTx` rely on `readTx` being definitionally head + `txTail`; an edit of one that is not made in
    the other shows up there as a unification error -/
def txTail (ver : Nat) (flag : UInt8) (icnt : VarUint) : P RTx := fun bs => do
  let (ins, bs) ← readN readIn icnt.value bs
  let (ocnt, bs) ← readVarUint bs
  let (outs, bs) ← readN readOut ocnt.value bs
  let (_, bs) ← if flag.toNat % 2 = 1 then readN skipStack icnt.value bs else pure ([], bs)
  let (lock, bs) ← readLE 4 bs
  pure (⟨ver, icnt, ins, ocnt, outs, lock⟩, bs)

/-- `wit` is what stands between the outputs and the locktime: the witness stacks if the flag is odd, nothing otherwise -/
theorem txTail_enc (t : Tx) (h : t.ok) (flag : UInt8) (wit : Bytes) (u : List Unit)
    (hw : Reads (fun bs => if flag.toNat % 2 = 1 then readN skipStack t.icnt.v bs else some ([], bs)) wit u) :
    Reads (txTail t.version flag ⟨t.icnt.v, t.icnt.enc⟩)
      (t.ins.flatMap TxIn.enc ++ t.ocnt.enc ++ t.outs.flatMap TxOut.enc ++ wit ++ toLE 4 t.lock) t.toR := by
  obtain ⟨_, hl, _, hin, _, hins, hoc, hon, houts, _⟩ := h
  exact .of_eq (by simp) <| .bind (.readN hin readIn_enc hins) <| .bind (.varUint hoc) <|
    .bind (.readN hon readOut_enc houts) <| .bind_ite hw <| .bind (.readLE hl) (.pure _)

theorem skipWit_enc (s : Segwit) (n : Nat) (h : s.ok n) :
    Reads (fun bs => if s.flag.toNat % 2 = 1 then readN skipStack n bs else some ([], bs))
      (s.stacks.flatMap WitStack.enc) (s.stacks.map fun _ => ()) := by
  unfold Segwit.ok at h
  split at h
  · next hf => exact .ite_pos hf (.readN h.1.symm skipStack_enc h.2)
  · next hf => rw [h]; exact .ite_neg hf (.pure _)

theorem readTx_enc (t : Tx) (h : t.ok) : Reads readTx t.enc t.toR := by
  obtain ⟨hv, _, hic, hin, h1, _, _, _, _, hsw⟩ := id h
  cases hs : t.segwit with
  | none =>
    exact .of_eq (by simp [Tx.enc, Tx.encHead, Tx.encBody, Tx.encWit, hs]) <| .bind (.readLE hv) <| .bind (.varUint hic) <|
      .ite_neg (Nat.ne_of_gt h1) <| txTail_enc t h 0 [] [] (.ite_neg (by decide) (.pure _))
  | some s =>
    have hm : (Count.mk s.markerW 0).ok := by cases s.markerW <;> simp [Count.ok]
    exact .of_eq (by simp [Tx.enc, Tx.encHead, Tx.encBody, Tx.encWit, hs]) <| .bind (.readLE hv) <| .bind (.varUint hm) <|
      .ite_pos rfl <| .bind (.readU8 s.flag) <| .bind (.varUint hic) <|
      txTail_enc t h s.flag _ _ (hin ▸ skipWit_enc s _ (hsw s hs))
end W
