import Rbp.Model.Run
import Rbp.Proofs.Block
/-!
# Index records and the block found at an offset (C03)

`IndexRec` is a `b` record as Bitcoin Core writes it, with its encoder; `record_roundtrip` / `decodeRec_enc` decode it.  `sized` is
`parseAt` seen as a wire reader (LE32 size, then the block), so that its round trip and its failure on truncated input come from
`W.Reads` and `W.Mono`.
-/
namespace Run
open Wk

/-- an index record as Bitcoin Core writes it -/
structure IndexRec where
  client : Nat
  height : Nat
  status : Nat
  ntx : Nat
  file : Nat
  dataPos : Nat
  undoPos : Nat
  headVersion : W.Bytes      -- 4 bytes
  prev : W.Bytes             -- 32 bytes
  headRest : W.Bytes         -- 44 bytes: merkle root, time, bits, nonce

def IndexRec.ok (r : IndexRec) : Prop :=
  r.client < 2^64 ∧ r.height < 2^64 ∧ r.status < 2^64 ∧ r.ntx < 2^64 ∧ r.file < 2^64 ∧ r.dataPos < 2^64 ∧ r.undoPos < 2^64 ∧
  r.headVersion.length = 4 ∧ r.prev.length = 32 ∧ r.headRest.length = 44

/-- `CDiskBlockIndex` serialisation: nFile iff HAVE_DATA|HAVE_UNDO, nDataPos iff HAVE_DATA, nUndoPos iff HAVE_UNDO, header -/
def IndexRec.enc (r : IndexRec) : W.Bytes :=
  VI.enc r.client ++ VI.enc r.height ++ VI.enc r.status ++ VI.enc r.ntx ++
  (if r.status &&& 24 > 0 then VI.enc r.file else []) ++
  (if r.status &&& 8 > 0 then VI.enc r.dataPos else []) ++
  (if r.status &&& 16 > 0 then VI.enc r.undoPos else []) ++
  r.headVersion ++ r.prev ++ r.headRest

theorem varint_enc (n : Nat) (t : W.Bytes) (hn : n < 2^64) : varint (VI.enc n ++ t) = .ok (n, t) := by
  unfold varint
  rw [VI.dec_enc n t (by omega)]

/-- a field that Core writes only under a status bit, read back under the same bit: the value, or 0 -/
theorem varint_opt (c : Prop) [Decidable c] (n : Nat) (t : W.Bytes) (hn : n < 2^64) :
    (if c then varint ((if c then VI.enc n else []) ++ t) else Res.ok (0, (if c then VI.enc n else []) ++ t)) =
      .ok (if c then n else 0, t) := by
  by_cases h : c <;> simp [h, varint_enc n t hn]

theorem record_roundtrip (hash : W.Bytes) (hh : hash.length = 32) (r : IndexRec) (hk : r.ok) :
    decodeRecFull (0x62 :: hash) r.enc =
      .ok ⟨r.client, r.ntx, ⟨hash, r.prev, r.height, r.status,
        if r.status &&& 24 > 0 then r.file else 0, if r.status &&& 8 > 0 then r.dataPos else 0⟩⟩ := by
  obtain ⟨h1, h2, h3, h4, h5, h6, h7, hv, hp, hr⟩ := hk
  -- four plain fields, three optional ones (`varint_opt`: no case split on the status bits), the header
  simp only [decodeRecFull, IndexRec.enc, List.append_assoc, varint_enc, varint_opt, h1, h2, h3, h4, h5, h6, h7]
  simp [hh, hv, hp, hr]

/-- the table record of an index entry: file / offset only when the status says they are stored -/
def IndexRec.toRec (hash : W.Bytes) (r : IndexRec) : Rec :=
  ⟨hash, r.prev, r.height, r.status, if r.status &&& 24 > 0 then r.file else 0, if r.status &&& 8 > 0 then r.dataPos else 0⟩

theorem decodeRec_enc (hash : W.Bytes) (hh : hash.length = 32) (r : IndexRec) (hk : r.ok) :
    decodeRec (0x62 :: hash) r.enc = .ok (r.toRec hash) := by
  unfold decodeRec
  rw [record_roundtrip hash hh r hk]
  rfl

def sized (thr : Option Nat) : W.P (Nat × Csv.RBlock) := fun bs => do
  let (size, bs) ← W.readLE 4 bs
  let (b, bs) ← Aux.readBlockCoin thr bs
  pure ((size, b), bs)

theorem parseAt_eq (coin : Coin) (bs : W.Bytes) : parseAt coin bs =
    match sized coin.auxpow bs with
    | none => .err "Unable to read block: failed to fill whole buffer"
    | some (x, _) => .ok x := by
  unfold parseAt sized
  cases W.readLE 4 bs with
  | none => rfl
  | some v => cases h : Aux.readBlockCoin coin.auxpow v.2 <;> simp [h]

theorem sized_enc (thr : Option Nat) (size : Nat) (hs : size < 256 ^ 4) (b : W.Block) (hb : b.ok thr) :
    W.Reads (sized thr) (W.toLE 4 size ++ b.enc) (size, b.toR) :=
  .of_eq (by simp) <| .bind (.readLE hs) <| .bind (W.readBlockCoin_enc thr b hb) (.pure _)

/-- the block found at the named offset is the block delivered, whatever follows it in the file -/
theorem parseAt_block (coin : Coin) (size : Nat) (hs : size < 256 ^ 4) (b : W.Block) (hb : b.ok coin.auxpow) (rest : W.Bytes) :
    parseAt coin (W.toLE 4 size ++ b.enc ++ rest) = .ok (size, b.toR) := by
  rw [parseAt_eq, sized_enc coin.auxpow size hs b hb rest]

theorem bytesFrom_append (name : String) (size : Nat) (pre rest : W.Bytes) :
    bytesFrom ⟨name, size, [⟨0, pre ++ rest⟩]⟩ pre.length =
      if pre.length ≥ size then [] else if rest = [] then List.replicate (min (size - pre.length) 4096) 0
      else rest.take (size - pre.length) := by
  unfold bytesFrom
  split
  · rfl
  · cases rest <;> simp [List.find?]

theorem parseAt_xor (coin : Coin) (k : W.Bytes) (p : Nat) (plain : W.Bytes) :
    parseAt coin (unxor (some k) p (X.xorAt k p plain)) = parseAt coin plain := by
  simp only [unxor]
  rw [X.xor_invol]
end Run
