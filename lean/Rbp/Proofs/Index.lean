import Rbp.Model.Run
import Rbp.Proofs.KeyOrder
/-!
# From the collected table to the height map (C04)

For a table that contains an active chain whose tip wins, the index IS the list `[(0, A 0), …, (T, A T)]` (`buildIndex_chain`),
so every question about it is a question about that list.
-/
namespace Run
open Wk Order

theorem lookup_cons (p : Nat × Rec) (m : List (Nat × Rec)) (h : Nat) :
    lookup (p :: m) h = if p.1 = h then some p.2 else lookup m h := by
  by_cases e : p.1 = h <;> simp [lookup, e]

theorem lookup_iff_mem (m : List (Nat × Rec)) (hnd : (m.map (·.1)).Nodup) (h : Nat) (r : Rec) :
    lookup m h = some r ↔ (h, r) ∈ m := by
  unfold lookup
  cases hf : m.find? (·.1 == h) with
  | none => simpa using fun hm : (h, r) ∈ m => by simpa using List.find?_eq_none.mp hf _ hm
  | some p =>
    -- `find?` returns a member with key `h`; another member with that key is the same pair
    have hp := List.mem_of_find?_eq_some hf
    have hk : p.1 = h := by simpa using List.find?_some hf
    rw [Option.map_some, Option.some.injEq]
    exact ⟨fun e => e ▸ hk ▸ hp, fun hm => congrArg Prod.snd (eq_of_key_eq (·.1) m hnd p hp (h, r) hm hk)⟩

theorem lookup_filter_key (m : List (Nat × Rec)) (q : Nat → Bool) (k : Nat) :
    lookup (m.filter (fun p => q p.1)) k = if q k then lookup m k else none := by
  -- among the pairs with key `k`, the only ones `find?` can stop at, the filter is constantly `q k`
  have e : ∀ p : Nat × Rec, decide (q p.1 = true ∧ (p.1 == k) = true) = (q k && p.1 == k) := fun p => by
    by_cases h : p.1 = k <;> simp [h]
  rw [lookup, List.find?_filter]
  simp only [e]
  cases q k <;> simp [lookup]

theorem lookup_insertHeight (m : List (Nat × Rec)) (r : Rec) (h : Nat) :
    lookup (insertHeight m r) h = if r.height = h then some r else lookup m h := by
  rw [insertHeight, lookup_cons, lookup_filter_key m (fun x => decide (x ≠ r.height))]
  by_cases e : r.height = h
  · simp [e]
  · simp [e, Ne.symm e]

theorem foldl_insertHeight_reverse : ∀ rs : List Rec, (rs.map (·.height)).Nodup →
    rs.reverse.foldl insertHeight [] = rs.map fun r => (r.height, r)
  | [], _ => rfl
  | r :: rs, hd => by
    have d := List.nodup_cons.mp hd
    rw [List.reverse_cons, List.foldl_append, List.foldl_cons, List.foldl_nil, foldl_insertHeight_reverse rs d.2, insertHeight,
      List.map_cons, List.filter_eq_self.mpr]
    intro p hp
    obtain ⟨x, hx, rfl⟩ := List.mem_map.mp hp
    have : x.height ≠ r.height := fun e => d.1 (List.mem_map.mpr ⟨x, hx, e⟩)
    simpa using this

theorem index_of_chain (A : Nat → Rec) (T : Nat) (hh : ∀ k, k ≤ T → (A k).height = k) :
    ((List.range (T + 1)).reverse.map A).foldl insertHeight [] = (List.range (T + 1)).map fun k => (k, A k) := by
  have e : ∀ k ∈ List.range (T + 1), (A k).height = k := fun k hk => hh k (Nat.lt_succ_iff.mp (List.mem_range.mp hk))
  rw [List.map_reverse, foldl_insertHeight_reverse, List.map_map]
  · exact List.map_congr_left fun k hk => by simp [e k hk]
  · rw [List.map_map, (List.map_congr_left e : (List.range (T + 1)).map ((·.height) ∘ A) = _), List.map_id']; exact List.nodup_range

theorem lookup_range_map (f : Nat → Rec) (n h : Nat) :
    lookup ((List.range n).map fun k => (k, f k)) h = if h < n then some (f h) else none := by
  induction n with
  | zero => rfl
  | succ n ih =>
    unfold lookup at ih ⊢
    rw [List.range_succ, List.map_append, List.find?_append, Option.map_or, ih]
    by_cases h1 : h < n
    · simp [h1, Nat.lt_succ_of_lt h1]
    · by_cases h2 : h = n
      · simp [h2]
      · have : ¬ h < n + 1 := by omega
        simp [h1, this, Ne.symm h2]

theorem foldl_max_range_map (f : Nat → Rec) (T : Nat) :
    ((List.range (T + 1)).map fun k => (k, f k)).foldl (fun a p => max a p.1) 0 = T := by
  induction T with
  | zero => rfl
  | succ T ih => rw [List.range_succ, List.map_append, List.foldl_append, ih]; simp

theorem pickTip_of_highest (t : Rec) : ∀ (l : List Rec) (best : Option Rec),
    (best = some t ∨ (t ∈ l ∧ ∀ b, best = some b → b.height < t.height)) →
    validScripts t = true →
    (∀ r ∈ l, validScripts r = true → r = t ∨ r.height < t.height) →
    (l.filter validScripts).foldl (fun best r => match best with
      | none => some r
      | some b => if tipLt b r then some r else some b) best = some t :=
  fun l best hb hv hall => pickTip_of_greatest t l best
    (hb.imp_right fun ⟨hm, h⟩ => ⟨hm, fun b e => tipLt_of_height_lt (h b e)⟩) hv
    fun r hr hvr => (hall r hr hvr).imp_right tipLt_of_height_lt

/-- a `b` key/value pair that decodes to a record passing the status filter -/
def Yields (kv : W.Bytes × W.Bytes) (x : Rec) : Prop :=
  kv.1.head? = some 0x62 ∧ decodeRec kv.1 kv.2 = .ok x ∧ passes x = true

theorem Yields.unique {kv : W.Bytes × W.Bytes} {x y : Rec} (hx : Yields kv x) (hy : Yields kv y) : x = y :=
  Res.ok.inj (hx.2.1.symm.trans hy.2.1)

/-- one step of `collect.go`: the pair yields a record, which replaces its hash in the table; or it is skipped; or the load fails -/
theorem collect_go_cons (kv : W.Bytes × W.Bytes) (l : List (W.Bytes × W.Bytes)) (acc : List Rec) :
    (∃ x, Yields kv x ∧ collect.go (kv :: l) acc = collect.go l (x :: acc.filter (fun y => y.hash != x.hash))) ∨
    ((∀ x, ¬ Yields kv x) ∧ collect.go (kv :: l) acc = collect.go l acc) ∨
    ((kv.1 = [] ∨ (kv.1.head? = some 0x62 ∧ ∀ x, decodeRec kv.1 kv.2 ≠ .ok x)) ∧ ∀ recs, collect.go (kv :: l) acc ≠ .ok recs) := by
  obtain ⟨k, v⟩ := kv
  cases k with
  | nil => exact Or.inr (Or.inr ⟨Or.inl rfl, by simp [collect.go]⟩)
  | cons b k' =>
    by_cases hb : b = 0x62
    · subst hb
      cases hd : decodeRec (0x62 :: k') v with
      | ok x0 =>
        by_cases hp : passes x0 = true
        · exact Or.inl ⟨x0, ⟨rfl, hd, hp⟩, by simp [collect.go, hd, hp]⟩
        · exact Or.inr (Or.inl ⟨fun x hy => hp (Res.ok.inj (hd.symm.trans hy.2.1) ▸ hy.2.2), by simp [collect.go, hd, hp]⟩)
      | err m => exact Or.inr (Or.inr ⟨Or.inr ⟨rfl, by simp⟩, by simp [collect.go, hd]⟩)
      | panic m => exact Or.inr (Or.inr ⟨Or.inr ⟨rfl, by simp⟩, by simp [collect.go, hd]⟩)
    · exact Or.inr (Or.inl ⟨fun x hy => hb (by simpa using hy.1), by simp [collect.go, hb]⟩)

theorem nodup_cons_filter {α κ : Type} (k : α → κ) (x : α) (l : List α) (p : α → Bool) (hp : ∀ y, p y = true → k y ≠ k x)
    (h : (l.map k).Nodup) : ((x :: l.filter p).map k).Nodup := by
  refine List.nodup_cons.mpr ⟨fun hm => ?_, h.sublist (List.filter_sublist.map _)⟩
  obtain ⟨y, hy, e⟩ := List.mem_map.mp hm
  exact hp y (List.mem_filter.mp hy).2 e

theorem collect_go_nodup : ∀ (l : List (W.Bytes × W.Bytes)) (acc recs : List Rec),
    (acc.map (·.hash)).Nodup → collect.go l acc = .ok recs → (recs.map (·.hash)).Nodup := by
  intro l
  induction l with
  | nil => intro acc recs h hc; exact Res.ok.inj hc ▸ h
  | cons kv l ih =>
    intro acc recs h hc
    rcases collect_go_cons kv l acc with ⟨x, _, hgo⟩ | ⟨_, hgo⟩ | ⟨_, hno⟩
    · exact ih _ recs (nodup_cons_filter (·.hash) x acc _ (fun y hy => by simpa using hy) h) (hgo ▸ hc)
    · exact ih _ recs h (hgo ▸ hc)
    · exact absurd hc (hno recs)

/-- the hashes are LevelDB keys, and a repeated key replaces -/
theorem collect_nodup (kvs : List (W.Bytes × W.Bytes)) (recs : List Rec) (hc : collect kvs = .ok recs) :
    (recs.map (·.hash)).Nodup :=
  collect_go_nodup _ [] recs (by simp) hc

/-- C04: whatever else the table holds, if it contains the active chain `A 0 … A T` (linked by prev-hash, record `k` at
    height `k`, the root's parent not in the table), the tip `A T` is fully validated and every other fully validated record
    is lower, then the index that is built is exactly the active chain, `[(0, A 0), …, (T, A T)]` -/
theorem buildIndex_chain (kvs : List (W.Bytes × W.Bytes)) (recs : List Rec) (A : Nat → Rec) (T : Nat)
    (hc : collect kvs = .ok recs) (hchain : Wk.Chain A T recs) (hh : ∀ k, k ≤ T → (A k).height = k)
    (hv : validScripts (A T) = true) (hcomp : ∀ r ∈ recs, validScripts r = true → r = A T ∨ r.height < T) :
    buildIndex kvs = .ok ((List.range (T + 1)).map fun k => (k, A k)) := by
  have htip : pickTip recs = some (A T) :=
    pickTip_greatest (A T) recs (hchain.mem T (Nat.le_refl _)) hv fun r hr hvr =>
      (hcomp r hr hvr).imp_right fun h => tipLt_of_height_lt (by rw [hh T (Nat.le_refl _)]; exact h)
  unfold buildIndex
  rw [hc]
  simp only [htip]
  rw [Wk.walk_chain A T recs recs.length (collect_nodup kvs recs hc) hchain hchain.lt_length, index_of_chain A T hh]
end Run
