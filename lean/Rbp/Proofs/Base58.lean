/-!
# Positional notation in any base, and Base58 on digit values

`ofBE` evaluates a digit string, `toBE` writes a number without leading zeros.  `toBE_ofBE` is Horner's rule: pushing a digit
onto a number that is not zero pushes it onto its digit string.  Base58 keeps the leading zeros apart and converts the rest
between bases 256 and 58; the character table is a separate bijection (`mapM_alphabet`).
-/
namespace B58

def digitsLE (b : Nat) (hb : 2 ≤ b) (n : Nat) : List Nat :=
  if h : n = 0 then [] else n % b :: digitsLE b hb (n / b)
termination_by n
decreasing_by exact Nat.div_lt_self (by omega) (by omega)

def ofLE (b : Nat) : List Nat → Nat
  | [] => 0
  | d :: ds => d + b * ofLE b ds

theorem ofLE_digitsLE (b : Nat) (hb : 2 ≤ b) (n : Nat) : ofLE b (digitsLE b hb n) = n := by
  fun_induction digitsLE b hb n with
  | case1 => rfl
  | case2 n h ih => rw [ofLE, ih]; exact Nat.mod_add_div n b

abbrev Bytes := List Nat       -- byte values, each < 256

def leadZeros : List Nat → Nat
  | 0 :: r => leadZeros r + 1
  | _ => 0
def stripZeros : List Nat → List Nat
  | 0 :: r => stripZeros r
  | l => l

def toBE (b : Nat) (hb : 2 ≤ b) (n : Nat) : List Nat := (digitsLE b hb n).reverse
def ofBE (b : Nat) (ds : List Nat) : Nat := ofLE b ds.reverse

theorem ofLE_snoc (b : Nat) (l : List Nat) (x : Nat) : ofLE b (l ++ [x]) = ofLE b l + b ^ l.length * x := by
  induction l with
  | nil => simp [ofLE]
  | cons y l ih =>
    simp only [List.cons_append, ofLE, ih, List.length_cons, Nat.pow_succ, Nat.mul_add, Nat.add_assoc, Nat.mul_assoc,
      Nat.mul_comm _ b]

theorem ofBE_cons (b d : Nat) (ds : List Nat) : ofBE b (d :: ds) = d * b ^ ds.length + ofBE b ds := by
  rw [ofBE, List.reverse_cons, ofLE_snoc, List.length_reverse, Nat.add_comm, Nat.mul_comm]; rfl

theorem foldl_ofBE {α} (b : Nat) (f : α → Nat) (l : List α) (a : Nat) :
    l.foldl (fun acc x => acc * b + f x) a = a * b ^ l.length + ofBE b (l.map f) := by
  induction l generalizing a with
  | nil => simp [ofBE, ofLE]
  | cons x l ih =>
    rw [List.foldl_cons, ih, List.map_cons, ofBE_cons, List.length_map, List.length_cons, Nat.pow_succ, Nat.add_mul,
      Nat.mul_assoc, Nat.mul_comm b, Nat.add_assoc]

theorem ofBE_lt (b : Nat) (ds : List Nat) (h : ∀ d ∈ ds, d < b) : ofBE b ds < b ^ ds.length := by
  induction ds with
  | nil => simp [ofBE, ofLE]
  | cons d ds ih =>
    obtain ⟨hd, hds⟩ := List.forall_mem_cons.mp h
    rw [ofBE_cons, List.length_cons, Nat.pow_succ, Nat.mul_comm _ b]
    calc d * b ^ ds.length + ofBE b ds < d * b ^ ds.length + b ^ ds.length := Nat.add_lt_add_left (ih hds) _
      _ = (d + 1) * b ^ ds.length := by rw [Nat.add_mul, Nat.one_mul]
      _ ≤ b * b ^ ds.length := Nat.mul_le_mul_right _ hd

theorem ofBE_toBE (b : Nat) (hb : 2 ≤ b) (n : Nat) : ofBE b (toBE b hb n) = n := by
  rw [toBE, ofBE, List.reverse_reverse, ofLE_digitsLE]

theorem toBE_zero (b : Nat) (hb : 2 ≤ b) : toBE b hb 0 = [] := by
  rw [toBE, digitsLE, dif_pos rfl]; rfl

theorem toBE_lt (b : Nat) (hb : 2 ≤ b) (n : Nat) : ∀ d ∈ toBE b hb n, d < b := by
  unfold toBE
  fun_induction digitsLE b hb n with
  | case1 => nofun
  | case2 n h ih =>
    intro d hd
    rcases List.mem_cons.mp (List.mem_reverse.mp hd) with rfl | hd
    · exact Nat.mod_lt _ (by omega)
    · exact ih d (List.mem_reverse.mpr hd)

theorem toBE_head (b : Nat) (hb : 2 ≤ b) (n : Nat) : (toBE b hb n).head? ≠ some 0 := by
  unfold toBE
  rw [List.head?_reverse]
  fun_induction digitsLE b hb n with
  | case1 => nofun
  | case2 n h ih =>
    rw [List.getLast?_cons]
    cases hq : (digitsLE b hb (n / b)).getLast? with
    | some x => rw [hq] at ih; simpa using ih
    | none =>
      -- no further digit: `n / b = 0`, so `n % b = n ≠ 0`
      have h0 := ofLE_digitsLE b hb (n / b)
      rw [List.getLast?_eq_none_iff.mp hq] at h0
      have : n < b := (Nat.div_eq_zero_iff_lt (by omega)).mp h0.symm
      simpa [Nat.mod_eq_of_lt this] using h

theorem toBE_push (b : Nat) (hb : 2 ≤ b) (n d : Nat) (hd : d < b) (h : n * b + d ≠ 0) :
    toBE b hb (n * b + d) = toBE b hb n ++ [d] := by
  rw [toBE, digitsLE, dif_neg h, List.reverse_cons, Nat.mul_add_mod_of_lt hd, Nat.add_comm, Nat.add_mul_div_right _ _ (by omega),
    Nat.div_eq_of_lt hd, Nat.zero_add]
  rfl

theorem toBE_append (b : Nat) (hb : 2 ≤ b) (l : List Nat) (hl : ∀ d ∈ l, d < b) (a : Nat) (h : a ≠ 0 ∨ l.head? ≠ some 0) :
    toBE b hb (a * b ^ l.length + ofBE b l) = toBE b hb a ++ l := by
  induction l generalizing a with
  | nil => simp [ofBE, ofLE]
  | cons d l ih =>
    obtain ⟨hd, hl⟩ := List.forall_mem_cons.mp hl
    have hne : a * b + d ≠ 0 := by
      rcases h with ha | hd0
      · have := Nat.mul_pos (Nat.pos_of_ne_zero ha) (by omega : 0 < b); omega
      · have : d ≠ 0 := by simpa using hd0
        omega
    rw [ofBE_cons, List.length_cons, Nat.pow_succ, Nat.mul_comm _ b, ← Nat.mul_assoc, ← Nat.add_assoc, ← Nat.add_mul,
      ih hl _ (.inl hne), toBE_push b hb a d hd hne, List.append_assoc]
    rfl

theorem toBE_ofBE (b : Nat) (hb : 2 ≤ b) (l : List Nat) (hl : ∀ d ∈ l, d < b) (h0 : l.head? ≠ some 0) :
    toBE b hb (ofBE b l) = l := by
  have := toBE_append b hb l hl 0 (.inr h0)
  rwa [Nat.zero_mul, Nat.zero_add, toBE_zero, List.nil_append] at this

theorem strip_split (l : List Nat) : List.replicate (leadZeros l) 0 ++ stripZeros l = l := by
  induction l with
  | nil => rfl
  | cons a l ih =>
    cases a with
    | zero => simp [leadZeros, stripZeros, List.replicate_succ, ih]
    | succ a => rfl

theorem ofBE_stripZeros (b : Nat) : ∀ l : List Nat, ofBE b (stripZeros l) = ofBE b l
  | [] => rfl
  | 0 :: l => by rw [stripZeros, ofBE_stripZeros b l, ofBE_cons, Nat.zero_mul, Nat.zero_add]
  | (_ + 1) :: _ => rfl

theorem stripZeros_head : ∀ l : List Nat, (stripZeros l).head? ≠ some 0
  | [] => nofun
  | 0 :: l => stripZeros_head l
  | (a + 1) :: l => by simp [stripZeros]

theorem stripZeros_mem (l : List Nat) (d : Nat) (h : d ∈ stripZeros l) : d ∈ l := by
  rw [← strip_split l]; exact List.mem_append_right _ h

theorem leadZeros_rep (z : Nat) (l : List Nat) (h : l.head? ≠ some 0) :
    leadZeros (List.replicate z 0 ++ l) = z ∧ stripZeros (List.replicate z 0 ++ l) = l := by
  induction z with
  | zero =>
    match l, h with
    | [], _ => exact ⟨rfl, rfl⟩
    | 0 :: _, h => exact absurd rfl h
    | (a + 1) :: _, _ => exact ⟨rfl, rfl⟩
  | succ z ih => simpa [List.replicate_succ, leadZeros, stripZeros] using ih

def encode (bs : Bytes) : List Nat :=
  List.replicate (leadZeros bs) 0 ++ toBE 58 (by omega) (ofBE 256 (stripZeros bs))
def decode (ds : List Nat) : Bytes :=
  List.replicate (leadZeros ds) 0 ++ toBE 256 (by omega) (ofBE 58 (stripZeros ds))

theorem decode_encode (bs : Bytes) (hb : ∀ d ∈ bs, d < 256) : decode (encode bs) = bs := by
  unfold decode encode
  obtain ⟨h1, h2⟩ := leadZeros_rep (leadZeros bs) _ (toBE_head 58 (by omega) (ofBE 256 (stripZeros bs)))
  rw [h1, h2, ofBE_toBE, toBE_ofBE 256 (by omega) _ (fun d hd => hb d (stripZeros_mem bs d hd)) (stripZeros_head bs), strip_split]
end B58
