import Rbp.Proofs.HashEval
import Rbp.Proofs.Render
import Rbp.Proofs.Alphabet
/-!
# Published test vectors, checked by the kernel (`decide +kernel`: definitional evaluation, no `native_decide`, no extra axiom)

These are TESTS stated as theorems — finitely many literals, not the unbounded claims of `Rbp.Props`.  Their purpose is to pin the
model's own primitives (SHA-256, RIPEMD-160, Base58Check, Bech32 / Bech32m) to constants published outside this repository, so that
"the model and the code agree" (the correspondence) cannot mean "both are wrong in the same way" for these functions.

What keeps the evaluation cheap: the hash functions are replaced by their list-based forms (`Rbp.Proofs.HashEval`), the two
alphabets by literal arrays (`Rbp.Proofs.Alphabet`), and every string is compared as its list of characters — a literal `"ab"`
unifies with `String.ofList ['a', 'b']`, whereas turning a `String` into characters inside the kernel decodes UTF-8 byte by byte.
-/
namespace Vec
def bytes (s : String) : List UInt8 := (Hex.unhex s).getD []

/-- `ByteArray.toList` is a well-founded loop over indices, dear to unfold in the kernel: the bytes of a string are read off its
    characters instead -/
theorem toList_loop (bs : ByteArray) (i : Nat) (r : List UInt8) :
    ByteArray.toList.loop bs i r = r.reverse ++ bs.data.toList.drop i := by
  fun_induction ByteArray.toList.loop bs i r with
  | case1 i r h ih =>
    have h' : i < bs.data.toList.length := by simpa using h
    rw [ih, List.drop_eq_getElem_cons h']
    simp [ByteArray.get!, getElem!_pos bs.data i (by simpa using h)]
  | case2 i r h => simp [List.drop_of_length_le (Nat.le_of_not_lt h : bs.data.toList.length ≤ i)]

theorem utf8_ofList (cs : List Char) : (String.ofList cs).toUTF8.toList = cs.flatMap String.utf8EncodeChar := by
  simp [String.toUTF8, String.ofList, List.utf8Encode, ByteArray.toList, toList_loop]

theorem bytes_ofList (cs : List Char) : bytes (String.ofList cs) = (Hex.unhexGo cs []).getD [] := by
  simp [bytes, Hex.unhex]

theorem hex_ofList {bs : List UInt8} {cs : List Char}
    (h : (bs.flatMap fun b => [Nat.digitChar (b.toNat / 16), Nat.digitChar (b.toNat % 16)]) = cs) :
    Sha.hex bs = String.ofList cs := by
  rw [← h, ← Render.hex_toList, String.ofList_toList]

theorem segwitAddr_ofList (hrp : List Char) (ver : Nat) (prog : List UInt8) :
    A.segwitAddr (String.ofList hrp) ver prog =
      String.ofList (hrp ++ '1' :: ((ver :: A.to5 prog) ++
        A.checksum (A.bechConst ver) ((hrp.map (·.toNat / 32) ++ [0] ++ hrp.map (·.toNat % 32)) ++ ver :: A.to5 prog)).map
          (fun v => A.charset[v]!)) := by
  show String.ofList hrp ++ String.ofList ['1'] ++ String.ofList _ = _
  simp only [A.hrpExpand, ← String.ofList_append, String.toList_ofList, List.append_assoc, List.singleton_append]

/-- NIST FIPS 180-4 examples: SHA-256 of "abc", of the empty string, and of the 56-byte two-block message -/
theorem sha256_nist :
    Sha.hex (Sha.sha256 [0x61, 0x62, 0x63]) = "ba7816bf8f01cfea414140de5dae2223b00361a396177a9cb410ff61f20015ad" ∧
    Sha.hex (Sha.sha256 []) = "e3b0c44298fc1c149afbf4c8996fb92427ae41e4649b934ca495991b7852b855" ∧
    Sha.hex (Sha.sha256 "abcdbcdecdefdefgefghfghighijhijkijkljklmklmnlmnomnopnopq".toUTF8.toList) =
      "248d6a61d20638b8e5c026930c3e6039a33ce45964ff2167f6ecedd419db06c1" := by
  rw [Sha.sha256_eq, utf8_ofList]
  refine ⟨hex_ofList ?_, hex_ofList ?_, hex_ofList ?_⟩ <;> decide +kernel

/-- RIPEMD-160 reference vectors (Dobbertin, Bosselaers, Preneel): "", "abc", "message digest" -/
theorem ripemd160_reference :
    Sha.hex (A.ripemd160 []) = "9c1185a5c5e9fc54612808977ee8f548b2258d31" ∧
    Sha.hex (A.ripemd160 [0x61, 0x62, 0x63]) = "8eb208f7e05d987a9b044a8e98c6b087f15a0bfc" ∧
    Sha.hex (A.ripemd160 "message digest".toUTF8.toList) = "5d0689ef49d2fae572b881b123a85ffa21595f36" := by
  rw [A.ripemd160_eq, utf8_ofList]
  refine ⟨hex_ofList ?_, hex_ofList ?_, hex_ofList ?_⟩ <;> decide +kernel

/-- the Bitcoin genesis block: its 80-byte header hashes to the published block hash, and its coinbase key gives the well-known address -/
theorem bitcoin_genesis :
    Sha.hex (A.sha256d (bytes "0100000000000000000000000000000000000000000000000000000000000000000000003ba3edfd7a7b12b27ac72c3e67768f617fc81bc3888a51323a9fb8aa4b1e5e4a29ab5f49ffff001d1dac2b7c")).reverse =
      "000000000019d6689c085ae165831e934ff763ae46a2a6c172b3f1b60a8ce26f" ∧
    A.base58check (0x00 :: A.hash160 (bytes "04678afdb0fe5548271967f1a67130b7105cd6a828e03909a67962e0ea1f61deb649f6bc3f4cef38c4f35504e51ec112de5c384df7ba0b8d578a4c702b6bf11d5f")) =
      "1A1zP1eP5QGefi2DMPTfTL5SLmv7DivfNa" := by
  rw [bytes_ofList, bytes_ofList]
  simp only [A.base58check, A.base58, A.hash160, A.sha256d, Sha.sha256_eq, A.ripemd160_eq, A.b58chars_eq]
  refine ⟨hex_ofList ?_, congrArg String.ofList ?_⟩ <;> decide +kernel

/-- BIP173 / BIP350 address vectors: P2WPKH and P2WSH (Bech32), a version-1 program (Bech32m), on mainnet and testnet -/
theorem segwit_bip_vectors :
    A.segwitAddr "bc" 0 (bytes "751e76e8199196d454941c45d1b3a323f1433bd6") = "bc1qw508d6qejxtdg4y5r3zarvary0c5xw7kv8f3t4" ∧
    A.segwitAddr "tb" 0 (bytes "1863143c14c5166804bd19203356da136c985678cd4d27a1b8c6329604903262") =
      "tb1qrp33g0q5c5txsp9arysrx4k6zdkfs4nce4xj0gdcccefvpysxf3q0sl5k7" ∧
    A.segwitAddr "bc" 1 (bytes "79be667ef9dcbbac55a06295ce870b07029bfcdb2dce28d959f2815b16f81798") =
      "bc1p0xlxvlhemja6c4dqv22uapctqupfhlxm9h8z3k2e72q4k9hcz7vqzk5jj0" := by
  rw [bytes_ofList, bytes_ofList, bytes_ofList, segwitAddr_ofList, segwitAddr_ofList, segwitAddr_ofList, A.charset_eq]
  refine ⟨congrArg String.ofList ?_, congrArg String.ofList ?_, congrArg String.ofList ?_⟩ <;> decide +kernel
end Vec
