import Rbp.Model.Utxo
import Rbp.Model.Callbacks
/-! `U.run` and the callbacks: the executable fold (`CB.utxo`) is `U.run` over the flattened operation list (C07, C08), and the
    unspent set never outgrows the number of creations (C07). -/
namespace CB
open Std W Csv

/-- operations of one transaction: a spend per input, then a creation per address-bearing output -/
def opsOfTx (ver : UInt8) (height : Nat) (t : RTx) : List (U.Op Unspent) :=
  t.ins.map (fun i => U.Op.spend (key i.prev i.idx)) ++
  ((List.range t.outs.length).zip t.outs).filterMap (fun (k, o) =>
    (S.eval ver o.script).address.map (fun a => U.Op.create (key (txid t) k) ⟨height, o.value, a⟩))

def opsOfBlock (ver : UInt8) (b : EBlock) : List (U.Op Unspent) := b.blk.txs.flatMap (opsOfTx ver b.height)
def opsOf (ver : UInt8) (bs : List EBlock) : List (U.Op Unspent) := bs.flatMap (opsOfBlock ver)

theorem applyTx_eq (ver : UInt8) (height : Nat) (m : HashMap Bytes Unspent) (t : RTx) :
    applyTx ver height m t = U.run m (opsOfTx ver height t) := by
  simp only [applyTx, opsOfTx, U.run, List.foldl_append, List.foldl_map, List.foldl_filterMap]
  congr 1
  funext m p
  cases (S.eval ver p.2.script).address <;> rfl

theorem utxo_eq_run (ver : UInt8) (bs : List EBlock) : utxo ver bs = U.run ∅ (opsOf ver bs) := by
  have h height : applyTx ver height = fun m t => U.run m (opsOfTx ver height t) :=
    funext fun m => funext fun t => applyTx_eq ver height m t
  simp only [utxo, opsOf, opsOfBlock, h, U.run, List.foldl_flatMap]
end CB

namespace U
open Std

def creates {V} : List (Op V) → Nat
  | [] => 0
  | .spend _ :: r => creates r
  | .create _ _ :: r => creates r + 1

/-- the unspent set never holds more entries than outputs were created (plus what it started with): a spend can only shrink it,
    a creation grows it by at most one (an equal key — a duplicate coinbase — replaces) -/
theorem run_size_le {V} (ops : List (Op V)) : ∀ (m : HashMap Key V), (run m ops).size ≤ m.size + creates ops := by
  induction ops with
  | nil => exact fun _ => Nat.le_refl _
  | cons op rest ih =>
    intro m
    refine Nat.le_trans (ih (apply m op)) ?_
    cases op with
    | spend k => exact Nat.add_le_add_right HashMap.size_erase_le _
    | create k v => exact Nat.le_trans (Nat.add_le_add_right HashMap.size_insert_le _) (Nat.le_of_eq (Nat.add_right_comm ..))
end U
