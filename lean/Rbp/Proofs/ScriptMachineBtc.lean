import Rbp.Model.ScriptMachineBtc
import Rbp.Proofs.Multisig
import Rbp.Proofs.Templates
/-! Each piece of the panic-site model of the Bitcoin/testnet3 path agrees with the structural one; `C14.evalBtc_total` puts
    them together. -/
namespace SMB
open S SM

theorem keysM_eq : ∀ (l : List (Option Ins)) (n : Nat), n + l.length ≤ 255 →
    keysM l n = .ok (isMultisigLib.keys l n)
  | [], n, _ => by simp [keysM, isMultisigLib.keys]
  | none :: r, n, _ => by simp [keysM, isMultisigLib.keys]
  | some (.op o) :: r, n, _ => by
    simp only [keysM, isMultisigLib.keys]
    cases pushnum o with
    | none => rfl
    | some k => by_cases hk : k = n <;> simp [hk]
  | some (.push d) :: r, n, h => by
    have h' : n + 1 + r.length ≤ 255 := by simp at h; omega
    have hn : ¬ n + 1 > 255 := by omega
    simp only [keysM, isMultisigLib.keys, hn, if_false]
    exact keysM_eq r (n + 1) h'

theorem instrs_length : ∀ (n : Nat) (s : Bytes), s.length = n → (instrs s).length ≤ s.length + 1 :=
  fun _ s _ => (instrs_length_le s).1

/-- with at most 255 instructions the `u8` key counter of `Script::is_multisig` cannot overflow -/
theorem isMultisigLibM_eq (s : Bytes) (h : (instrs s).length ≤ 255) : isMultisigLibM s = .ok (isMultisigLib s) := by
  unfold isMultisigLibM isMultisigLib
  generalize instrs s = l at h
  split
  · rename_i m rest
    dsimp only
    cases pushnum m with
    | none => rfl
    | some req =>
      simp only [keysM_eq rest 0 (by simp at h; omega)]
      cases isMultisigLib.keys rest 0 with
      | none => rfl
      | some p =>
        obtain ⟨n, after⟩ := p
        dsimp only
        split
        · rfl
        · split
          · rfl
          · rename_i hne
            split
            · exact absurd rfl hne
            · rfl
  · rename_i hne
    split
    · exact absurd rfl (hne _ _)
    · rfl

theorem isBareMultisigM_eq (s : Bytes) : isBareMultisigM s = .ok (isBareMultisig s) := by
  unfold isBareMultisigM isBareMultisig
  by_cases hg : ((instrs s).take 20).length ≤ 19
  · -- the guard bounds the instruction count, so the u8 counter cannot overflow
    rw [if_pos hg, isMultisigLibM_eq s (by rw [List.length_take] at hg; omega), decide_eq_true hg, Bool.true_and]
    cases hm : isMultisigLib s with
    | false => rfl
    | true =>
      -- a multisig script has at least three bytes, so `len - 2` neither underflows nor leaves the script
      have h3 := S.multisig_len s hm
      have hidx : s.length - 2 < s.length := by omega
      simp only [if_neg (show ¬ s.length < 2 by omega), List.getElem?_eq_getElem hidx, Bool.true_and, S.get, List.getD,
        Option.getD_some]
  · rw [if_neg hg, decide_eq_false hg]; rfl

theorem p2pkKeyM_eq (s : Bytes) (key : Bytes) (h : isP2pk s = some key) : p2pkKeyM s = .ok (some key) := by
  obtain ⟨hl, rfl⟩ := (isP2pk_iff s key).mp h
  have e : (UInt8.ofNat key.length).toNat = key.length := UInt8.toNat_ofNat_of_lt' (by show _ < 256; omega)
  rw [p2pkKeyM, List.cons_append, instrs_direct _ _ (by omega), e, if_pos (by simp)]
  simp
end SMB
