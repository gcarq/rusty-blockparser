import Rbp.Proofs.Record
import Rbp.Proofs.Driver
/-!
# From a data directory that stores a chain to the rows of the run

`Stored … k sz b`: the index names, for height `k`, a blk file that is present and whose bytes at `offset - 4` are the LE32
length prefix `sz` followed by the on-disk encoding of the well-formed abstract block `b` (anything may follow).
When every height of the range is stored like this the run delivers exactly those blocks and the callback output is
the callback's function of *the abstract blocks*.
-/
namespace Run
open Wk CB W

/-- what `Csv.rows` does per transaction -/
def txRowsR (ver : UInt8) (bh : String) (t : RTx) : String × List String × List String :=
  let txid := Csv.hashHex (A.sha256d t.toBytes)
  (s!"{txid};{bh};{t.version};{t.lock}",
   t.ins.map (fun i => s!"{txid};{Csv.hashHex i.prev};{i.idx};{Sha.hex i.script};{i.seq}"),
   (List.range t.outs.length).zip t.outs |>.map (fun (k, o) =>
      s!"{txid};{k};{o.value};{Sha.hex o.script};{((S.eval ver o.script).address).getD ""}"))

def txRowsA (ver : UInt8) (bh : String) (t : W.Tx) : String × List String × List String :=
  let txid := Csv.hashHex (A.sha256d t.encStripped)
  (s!"{txid};{bh};{t.version};{t.lock}",
   t.ins.map (fun i => s!"{txid};{Csv.hashHex i.prev};{i.idx};{Sha.hex i.script};{i.seq}"),
   (List.range t.outs.length).zip t.outs |>.map (fun (k, o) =>
      s!"{txid};{k};{o.value};{Sha.hex o.script};{((S.eval ver o.script).address).getD ""}"))

/-- the csv rows of a block written directly from the abstract (on-disk) values: block hash = double-SHA256 of the 80 header
    bytes on disk, txid = double-SHA256 of the witness-stripped serialisation, scripts in hex, integers in decimal,
    blocksize = the stored length prefix -/
def specRows (ver : UInt8) (size height : Nat) (b : W.Block) : String × List String × List String × List String :=
  let bh := Csv.hashHex (A.sha256d b.header.enc)
  let blockRow := s!"{bh};{height};{b.header.version};{size};{Csv.hashHex b.header.prev};{Csv.hashHex b.header.merkle};{b.header.time};{b.header.bits};{b.header.nonce}"
  let per := b.txs.map (txRowsA ver bh)
  (blockRow, per.map (·.1), per.flatMap (·.2.1), per.flatMap (·.2.2))

theorem rows_eq_txRowsR (ver : UInt8) (size height : Nat) (b : Csv.RBlock) :
    Csv.rows ver size height b =
      (let bh := Csv.hashHex (A.sha256d b.header.toBytes)
       (s!"{bh};{height};{b.header.version};{size};{Csv.hashHex b.header.prev};{Csv.hashHex b.header.merkle};{b.header.time};{b.header.bits};{b.header.nonce}",
        (b.txs.map (txRowsR ver bh)).map (·.1), (b.txs.map (txRowsR ver bh)).flatMap (·.2.1),
        (b.txs.map (txRowsR ver bh)).flatMap (·.2.2))) := rfl

theorem txRows_toR (ver : UInt8) (bh : String) (t : W.Tx) : txRowsR ver bh t.toR = txRowsA ver bh t := by
  unfold txRowsR txRowsA
  simp only [toBytes_stripped]
  simp only [Tx.toR, List.map_map, List.length_map, List.zip_map_right, Function.comp_def, TxIn.toR, TxOut.toR, Prod.map, id]

theorem rows_toR (ver : UInt8) (size height : Nat) (b : W.Block) :
    Csv.rows ver size height b.toR = specRows ver size height b := by
  rw [rows_eq_txRowsR]
  unfold specRows
  have hh : b.toR.header.toBytes = b.header.enc := header_toBytes b.header
  simp only [hh]
  simp only [Block.toR, List.map_map, Function.comp_def, Header.toR, txRows_toR]

theorem specRows_counts (ver : UInt8) (size height : Nat) (b : W.Block) :
    (specRows ver size height b).2.1.length = b.txs.length ∧
    (specRows ver size height b).2.2.1.length = (b.txs.map (·.ins.length)).sum ∧
    (specRows ver size height b).2.2.2.length = (b.txs.map (·.outs.length)).sum := by
  unfold specRows
  refine ⟨by simp, ?_, ?_⟩
  · simp only [List.length_flatMap, List.map_map, Function.comp_def, List.length_map, txRowsA]
  · simp only [List.length_flatMap, List.map_map, Function.comp_def, List.length_map, List.length_zip, List.length_range,
      Nat.min_self, txRowsA]

def Stored (coin : Coin) (key : Option Bytes) (files : List (Nat × BlkFile)) (trimmed : List (Nat × Rec))
    (k sz : Nat) (b : W.Block) : Prop :=
  ∃ r f rest, lookup trimmed k = some r ∧ (files.find? (·.1 == r.file)).map (·.2) = some f ∧ 4 ≤ r.off ∧
    unxor key (r.off - 4) (bytesFrom f (r.off - 4)) = toLE 4 sz ++ b.enc ++ rest ∧ sz < 256 ^ 4 ∧ b.ok coin.auxpow

section
variable {coin : Coin} {o : Opts} {key : Option Bytes} {files : List (Nat × BlkFile)} {trimmed : List (Nat × Rec)} {k sz : Nat}
  {b : W.Block} (h : Stored coin key files trimmed k sz b)
include h

theorem Stored.readAt : ∃ r f, lookup trimmed k = some r ∧ (files.find? (·.1 == r.file)).map (·.2) = some f ∧
    readAt coin key f r.off = .ok (sz, b.toR) := by
  obtain ⟨r, f, rest, hl, hf, h4, hb, hs, hk⟩ := h
  refine ⟨r, f, hl, hf, ?_⟩
  rw [Run.readAt, if_neg (by omega), hb]
  exact parseAt_block coin sz hs b hk rest

theorem Stored.serve (hv : o.verify = true → verifyBlock coin trimmed b.toR k = .ok ()) :
    Run.serve coin o key files trimmed k = .ok ⟨k, sz, b.toR⟩ :=
  let ⟨_, _, hl, hf, hr⟩ := h.readAt
  serve_ok hl hf hr hv

theorem Stored.servable (hv : o.verify = true → verifyBlock coin trimmed b.toR k = .ok ()) :
    Servable coin o key files trimmed k :=
  let ⟨r, f, hl, hf, hr⟩ := h.readAt
  ⟨r, f, sz, b.toR, hl, hf, hr, hv⟩

theorem Stored.table_ne_nil : files ≠ [] := by
  obtain ⟨_, _, _, _, hf, _⟩ := h
  rintro rfl
  cases hf
end

/-- **Whole run over a stored chain.**  If the index loads and every height of `start..maxH` is stored (and passes
    verification when `--verify` is given), the run exits 0, delivers exactly `start..maxH`, and its output files and stdout
    are the callback's function of the parsed abstract blocks with their stored length prefixes. -/
theorem run_stored (o : Opts) (key : Option Bytes) (kvs : List (Bytes × Bytes)) (files : List BlkFile)
    (coin : Coin) (ld : Loaded) (hcoin : coinOf o.coin = some coin) (hld : loadIndex o kvs = .ok ld)
    (hkey : key ≠ some []) (sz : Nat → Nat) (blk : Nat → W.Block)
    (hs : ∀ k, o.start ≤ k → k < o.start + (ld.maxH + 1 - o.start) →
      Stored coin key (files.filterMap fun f => (parseBlkIndex f.name).map fun n => (n, f)) ld.trimmed k (sz k) (blk k) ∧
      (o.verify = true → verifyBlock coin ld.trimmed (blk k).toR k = .ok ()))
    (hne : o.start ≤ ld.maxH)
    (hnp : callbackPanics o coin.version
      ((List.range' o.start (ld.maxH + 1 - o.start)).map (fun k => (⟨k, sz k, (blk k).toR⟩ : EBlock))) = false) :
    (run o key kvs files).exit = 0 ∧ (run o key kvs files).delivered = List.range' o.start (ld.maxH + 1 - o.start) ∧
    (run o key kvs files).files = (callbackOut o coin.version ld.maxH
      ((List.range' o.start (ld.maxH + 1 - o.start)).map (fun k => (⟨k, sz k, (blk k).toR⟩ : EBlock)))).1 ∧
    (run o key kvs files).stdout = (callbackOut o coin.version ld.maxH
      ((List.range' o.start (ld.maxH + 1 - o.start)).map (fun k => (⟨k, sz k, (blk k).toR⟩ : EBlock)))).2 := by
  have hfm := (hs o.start (Nat.le_refl _) (by omega)).1.table_ne_nil
  obtain ⟨bs, hbs, hsc⟩ := scan_all _ id (fun k => (⟨k, sz k, (blk k).toR⟩ : EBlock)) _ o.start
    fun j h1 h2 => ⟨_, (hs j h1 h2).1.serve (hs j h1 h2).2, rfl⟩
  rw [List.map_id] at hbs
  have hlast : o.start + (ld.maxH + 1 - o.start) - 1 = ld.maxH := by omega
  rw [run_eq_report hcoin hld hfm hkey, hsc, hbs]
  simp only [report, hnp, Bool.false_eq_true, if_false, List.length_map, List.length_range', hlast,
    List.map_map, Function.comp_def, List.map_id']
  exact ⟨trivial, trivial, trivial, trivial⟩

/-- the output of a stored chain is a function of the parsed blocks of the range: the common form of
    `C02.outside_range_irrelevant` and `C12.auxpow_run_transparent` -/
theorem run_stored_same (o : Opts) (key₁ key₂ : Option Bytes) (kvs₁ kvs₂ : List (Bytes × Bytes)) (fs₁ fs₂ : List BlkFile)
    (coin : Coin) (ld₁ ld₂ : Loaded) (hcoin : coinOf o.coin = some coin)
    (hl₁ : loadIndex o kvs₁ = .ok ld₁) (hl₂ : loadIndex o kvs₂ = .ok ld₂) (hmax : ld₁.maxH = ld₂.maxH)
    (hk₁ : key₁ ≠ some []) (hk₂ : key₂ ≠ some []) (sz : Nat → Nat) (blk₁ blk₂ : Nat → W.Block)
    (hsame : ∀ k, o.start ≤ k → k ≤ ld₁.maxH → (blk₁ k).toR = (blk₂ k).toR)
    (hs₁ : ∀ k, o.start ≤ k → k < o.start + (ld₁.maxH + 1 - o.start) →
      Stored coin key₁ (blkTable fs₁) ld₁.trimmed k (sz k) (blk₁ k) ∧
      (o.verify = true → verifyBlock coin ld₁.trimmed (blk₁ k).toR k = .ok ()))
    (hs₂ : ∀ k, o.start ≤ k → k < o.start + (ld₂.maxH + 1 - o.start) →
      Stored coin key₂ (blkTable fs₂) ld₂.trimmed k (sz k) (blk₂ k) ∧
      (o.verify = true → verifyBlock coin ld₂.trimmed (blk₂ k).toR k = .ok ()))
    (hne : o.start ≤ ld₁.maxH)
    (hnp : callbackPanics o coin.version
      ((List.range' o.start (ld₁.maxH + 1 - o.start)).map (fun k => (⟨k, sz k, (blk₁ k).toR⟩ : EBlock))) = false) :
    (run o key₁ kvs₁ fs₁).files = (run o key₂ kvs₂ fs₂).files ∧ (run o key₁ kvs₁ fs₁).stdout = (run o key₂ kvs₂ fs₂).stdout ∧
    (run o key₁ kvs₁ fs₁).exit = 0 ∧ (run o key₂ kvs₂ fs₂).exit = 0 := by
  have e : (List.range' o.start (ld₁.maxH + 1 - o.start)).map (fun k => (⟨k, sz k, (blk₁ k).toR⟩ : EBlock)) =
      (List.range' o.start (ld₂.maxH + 1 - o.start)).map (fun k => (⟨k, sz k, (blk₂ k).toR⟩ : EBlock)) := by
    rw [← hmax]
    refine List.map_congr_left fun k hk => ?_
    have := List.mem_range'_1.mp hk
    rw [hsame k this.1 (by omega)]
  obtain ⟨a0, _, a1, a2⟩ := run_stored o key₁ kvs₁ fs₁ coin ld₁ hcoin hl₁ hk₁ sz blk₁ hs₁ hne hnp
  obtain ⟨b0, _, b1, b2⟩ := run_stored o key₂ kvs₂ fs₂ coin ld₂ hcoin hl₂ hk₂ sz blk₂ hs₂ (hmax ▸ hne) (e ▸ hnp)
  exact ⟨by rw [a1, b1, e, hmax], by rw [a2, b2, e, hmax], a0, b0⟩

/-- csvdump's four files written from the abstract blocks -/
def specCsvFiles (ver : UInt8) (start last : Nat) (bs : List (Nat × Nat × W.Block)) : List (String × List String) :=
  let rs := bs.map fun b => specRows ver b.2.1 b.1 b.2.2
  let nm (f : String) := s!"{f}-{start}-{last}.csv"
  [(nm "blocks", rs.map (·.1)), (nm "transactions", rs.flatMap (·.2.1)),
   (nm "tx_in", rs.flatMap (·.2.2.1)), (nm "tx_out", rs.flatMap (·.2.2.2))]

theorem csvFiles_toR (ver : UInt8) (start last : Nat) (bs : List (Nat × Nat × W.Block)) :
    csvFiles ver start last (bs.map fun b => ⟨b.1, b.2.1, b.2.2.toR⟩) = specCsvFiles ver start last bs := by
  simp only [csvFiles, specCsvFiles, List.map_map, Function.comp_def, rows_toR]

theorem sum_map_flatMap {α β} (g : α → List β) (f : β → Nat) (l : List α) :
    ((l.flatMap g).map f).sum = (l.map (fun a => ((g a).map f).sum)).sum := by
  induction l with
  | nil => rfl
  | cons a l ih => simp [List.flatMap_cons, List.sum_append, ih]

/-- `sel` picks one of the files, `len` the rows one transaction contributes to it, `cnt` the count field that announces them -/
theorem count_eq_rows (ver : UInt8) (bs : List (Nat × Nat × W.Block)) (cnt : W.RTx → Nat) (len : W.Tx → Nat)
    (sel : String × List String × List String × List String → List String)
    (hsel : ∀ sz h b, (sel (specRows ver sz h b)).length = (b.txs.map len).sum)
    (hcnt : ∀ b ∈ bs, ∀ t ∈ b.2.2.txs, cnt t.toR = len t) :
    ((bs.map fun b => (⟨b.1, b.2.1, b.2.2.toR⟩ : EBlock)).flatMap (·.blk.txs)).foldl (fun a t => a + cnt t) 0 =
      ((bs.map fun b => specRows ver b.2.1 b.1 b.2.2).flatMap sel).length := by
  rw [← List.foldl_map (f := cnt) (g := (· + ·)), ← List.sum_eq_foldl_nat, sum_map_flatMap]
  simp only [List.length_flatMap, List.map_map, Function.comp_def, hsel, Block.toR]
  congr 1
  refine List.map_congr_left fun b hb => ?_
  congr 1
  exact List.map_congr_left (hcnt b hb)

theorem totals_eq_rows (ver : UInt8) (thr : Option Nat) (bs : List (Nat × Nat × W.Block)) (hk : ∀ b ∈ bs, b.2.2.ok thr) :
    totals (bs.map fun b => ⟨b.1, b.2.1, b.2.2.toR⟩) =
      [s!"transactions={((bs.map fun b => specRows ver b.2.1 b.1 b.2.2).flatMap (·.2.1)).length}",
       s!"inputs={((bs.map fun b => specRows ver b.2.1 b.1 b.2.2).flatMap (·.2.2.1)).length}",
       s!"outputs={((bs.map fun b => specRows ver b.2.1 b.1 b.2.2).flatMap (·.2.2.2)).length}"] := by
  unfold totals
  have h1 : ((bs.map fun b => (⟨b.1, b.2.1, b.2.2.toR⟩ : EBlock)).map (·.blk.txCount.value)).foldl (·+·) 0 =
      ((bs.map fun b => specRows ver b.2.1 b.1 b.2.2).flatMap (·.2.1)).length := by
    rw [← List.sum_eq_foldl]
    simp only [List.length_flatMap, List.map_map, Function.comp_def, (specRows_counts ver _ _ _).1, Block.toR]
    congr 1
    exact List.map_congr_left fun b hb => (hk b hb).2.2.2.2.1
  rw [h1, count_eq_rows ver bs (·.icnt.value) (·.ins.length) (·.2.2.1) (fun _ _ _ => (specRows_counts ver _ _ _).2.1)
      fun b hb t ht => ((hk b hb).2.2.2.2.2 t ht).2.2.2.1,
    count_eq_rows ver bs (·.ocnt.value) (·.outs.length) (·.2.2.2) (fun _ _ _ => (specRows_counts ver _ _ _).2.2)
      fun b hb t ht => ((hk b hb).2.2.2.2.2 t ht).2.2.2.2.2.2.2.1]

theorem map_range'_split {α} (eb : Nat → α) {s m M : Nat} (h1 : s ≤ m) (h2 : m ≤ M) :
    (List.range' 0 (M + 1 - 0)).map eb =
      (List.range' 0 s).map eb ++ (List.range' s (m + 1 - s)).map eb ++ (List.range' (m + 1) (M - m)).map eb := by
  have e1 := @List.range'_append_1 0 s (m + 1 - s)
  have e2 := @List.range'_append_1 0 (m + 1) (M - m)
  rw [Nat.zero_add] at e1 e2
  rw [← List.map_append, ← List.map_append, e1, show s + (m + 1 - s) = m + 1 by omega, e2,
    show m + 1 + (M - m) = M + 1 - 0 by omega]
end Run
