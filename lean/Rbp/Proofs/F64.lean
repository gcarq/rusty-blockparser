import Rbp.Model.F64
/-!
# binary64 rounding and `{:.k}` rendering: nearest, ties to even, relative error 2^-53 (C15)
-/
namespace F64

theorem rhe_cases (a b : Nat) :
    rhe a b = a / b ∧ 2 * (a % b) ≤ b ∧ (2 * (a % b) = b → a / b % 2 = 0) ∨
    rhe a b = a / b + 1 ∧ b ≤ 2 * (a % b) ∧ (2 * (a % b) = b → a / b % 2 = 1) := by
  unfold rhe
  simp only
  split
  · exact .inl ⟨rfl, by omega, by omega⟩
  · split
    · exact .inr ⟨rfl, by omega, by omega⟩
    · split
      · exact .inl ⟨rfl, by omega, fun _ => by assumption⟩
      · exact .inr ⟨rfl, by omega, by omega⟩

/-- `rhe − 1/2 ≤ a/b ≤ rhe + 1/2`, cross-multiplied -/
theorem rhe_near (a b : Nat) (hb : 0 < b) : 2 * a ≤ (2 * rhe a b + 1) * b ∧ 2 * rhe a b * b ≤ 2 * a + b := by
  have hdm := Nat.div_add_mod a b
  have hr := Nat.mod_lt a hb
  rcases rhe_cases a b with ⟨e, h, -⟩ | ⟨e, h, -⟩ <;> rw [e] <;> generalize a / b = q at * <;> generalize a % b = r at * <;>
    subst hdm <;> simp only [Nat.add_mul, Nat.mul_add, Nat.mul_assoc, Nat.mul_comm q b, Nat.one_mul, Nat.mul_one] <;> omega

theorem rhe_tie_even (a b : Nat) (h : 2 * (a % b) = b) : rhe a b % 2 = 0 := by
  rcases rhe_cases a b with ⟨e, -, h'⟩ | ⟨e, -, h'⟩
  · exact e ▸ h' h
  · rw [e, Nat.add_mod, h' h]

theorem rhe_exact (q b : Nat) (hb : 0 < b) : rhe (q * b) b = q := by
  rcases rhe_cases (q * b) b with ⟨e, -, -⟩ | ⟨e, h, -⟩
  · rw [e, Nat.mul_div_cancel _ hb]
  · rw [Nat.mul_mod_left] at h; omega

theorem rhe_scale (a b c : Nat) (hb : 0 < b) (hc : 0 < c) : rhe (a * c) (b * c) = rhe a b := by
  unfold rhe
  have h1 : a * c / (b * c) = a / b := Nat.mul_div_mul_right a b hc
  have h2 : a * c % (b * c) = a % b * c := Nat.mul_mod_mul_right c a b
  simp only [h1, h2]
  have e : 2 * (a % b * c) = 2 * (a % b) * c := by rw [Nat.mul_assoc]
  rw [e]
  have l1 : (2 * (a % b) * c < b * c) ↔ (2 * (a % b) < b) := Nat.mul_lt_mul_right hc
  have l2 : (2 * (a % b) * c > b * c) ↔ (2 * (a % b) > b) := Nat.mul_lt_mul_right hc
  simp only [l1, l2]

theorem mul_pow_succ (x m : Nat) : x * 2 ^ (m + 1) = 2 * x * 2 ^ m := by
  rw [Nat.pow_succ, Nat.mul_comm (2 ^ m), ← Nat.mul_assoc, Nat.mul_comm x]

theorem upN_spec (a b : Nat) (ha : 0 < a) :
    2 ^ 52 * b ≤ a * 2 ^ upN a b ∧ (0 < upN a b → a * 2 ^ upN a b < 2 ^ 53 * b) := by
  fun_induction upN a b with
  | case1 a h ih =>
    -- one doubling more than for `2 * a`; if that is the only one, the loop condition `a < 2^52 * b` is the upper bound
    have ⟨h1, h2⟩ := ih (by omega)
    rw [mul_pow_succ]
    refine ⟨h1, fun _ => ?_⟩
    cases hm : upN (2 * a) b with
    | zero => omega
    | succ m => exact hm ▸ h2 (by omega)
  | case2 a h => simp only [Nat.pow_zero, Nat.mul_one]; omega

theorem downN_spec (a b : Nat) (hb : 0 < b) :
    a < 2 ^ 53 * (b * 2 ^ downN a b) ∧ (0 < downN a b → 2 ^ 52 * (b * 2 ^ downN a b) ≤ a) := by
  fun_induction downN a b with
  | case1 b h ih =>
    have ⟨h1, h2⟩ := ih (by omega)
    rw [mul_pow_succ]
    refine ⟨h1, fun _ => ?_⟩
    cases hm : downN a (2 * b) with
    | zero => omega
    | succ m => exact hm ▸ h2 (by omega)
  | case2 b h => simp only [Nat.pow_zero, Nat.mul_one]; omega

theorem downN_zero (a b : Nat) (h : a < 2 ^ 53 * b) : downN a b = 0 := by
  rw [downN]; simp; omega

theorem upN_zero (a b : Nat) (h : 2 ^ 52 * b ≤ a) : upN a b = 0 := by
  rw [upN]; simp; omega

theorem rn_scaled (n d : Nat) (hn : 0 < n) (hd : 0 < d) :
    let a := n * 2 ^ upN n d
    let b := d * 2 ^ downN a d
    0 < b ∧ 2 ^ 52 * b ≤ a ∧ a < 2 ^ 53 * b ∧ (upN n d = 0 ∨ downN a d = 0) := by
  intro a b
  have hu := upN_spec n d hn
  have hdn := downN_spec a d hd
  have hb : 0 < b := Nat.mul_pos hd (Nat.pow_pos (by decide))
  refine ⟨hb, ?_, hdn.1, ?_⟩
  · cases hw : downN a d with
    | zero => simpa [b, hw] using hu.1
    | succ w => exact hdn.2 (by omega)
  · cases hz : upN n d with
    | zero => exact .inl rfl
    | succ u => exact .inr (downN_zero a d (hu.2 (by omega)))

/-- the value of a double (0 for `inf` / `NaN`, which the theorems below exclude) -/
def V.val : V → Rat
  | .fin n d => (n : Rat) / (d : Rat)
  | _ => 0

/-- the integer `s` such that `fmt k v` prints `s / 10^k` -/
def digits (k : Nat) : V → Nat
  | .fin n d => rhe (n * 10 ^ k) d
  | _ => 0

theorem fmt_fin (k n d : Nat) (hk : 0 < k) :
    fmt k (.fin n d) = toString (digits k (.fin n d) / 10 ^ k) ++ "." ++ padLeft (toString (digits k (.fin n d) % 10 ^ k)) k := by
  simp [fmt, digits]; omega

/-! ## the few facts about order and division in `Rat` that core lacks -/

theorem le_div_of_mul_le {x y b : Rat} (hb : 0 < b) (h : y * b ≤ x) : y ≤ x / b := by
  apply Rat.le_of_mul_le_mul_right _ hb
  rw [Rat.div_mul_cancel (Rat.ne_of_gt hb)]; exact h

theorem mul_le_mul' {a b c d : Rat} (h1 : a ≤ b) (h2 : c ≤ d) (hc : 0 ≤ c) (hb : 0 ≤ b) : a * c ≤ b * d :=
  Rat.le_trans (Rat.mul_le_mul_of_nonneg_right h1 hc) (Rat.mul_le_mul_of_nonneg_left h2 hb)

theorem mul_mul_mul_comm' (a b c d : Rat) : a * b * (c * d) = a * c * (b * d) := by
  rw [Rat.mul_assoc, ← Rat.mul_assoc b, Rat.mul_comm b c, Rat.mul_assoc c, ← Rat.mul_assoc a]

theorem mul_div_assoc' (k x c : Rat) : k * x / c = k * (x / c) := by
  simp only [Rat.div_def, Rat.mul_assoc]

theorem div_div_comm' (x a c : Rat) : x / a / c = x / c / a := by
  simp only [Rat.div_def, Rat.mul_assoc, Rat.mul_comm a⁻¹]

theorem natCast_pos {n : Nat} (h : 0 < n) : (0 : Rat) < (n : Rat) := Rat.natCast_pos.2 h

theorem rhe_rat (a b : Nat) (hb : 0 < b) :
    (rhe a b : Rat) ≤ (a : Rat) / b + 1 / 2 ∧ (a : Rat) / b ≤ (rhe a b : Rat) + 1 / 2 := by
  obtain ⟨h1, h2⟩ := rhe_near a b hb
  generalize rhe a b = m at *
  have hB := natCast_pos hb
  have k1 := Rat.natCast_le_natCast.2 h1
  have k2 := Rat.natCast_le_natCast.2 h2
  simp only [Rat.natCast_mul, Rat.natCast_add, Rat.natCast_ofNat] at k1 k2
  have hq : (a : Rat) / b * b = a := Rat.div_mul_cancel (Rat.ne_of_gt hB)
  have e : ∀ x : Rat, 2 * ((x + 1 / 2) * b) = (2 * x + 1) * b := fun x => by
    rw [← Rat.mul_assoc, Rat.mul_add, show (2 : Rat) * (1 / 2) = 1 by decide +kernel]
  constructor <;> apply Rat.le_of_mul_le_mul_right _ hB <;> apply Rat.le_of_mul_le_mul_left (c := 2) _ (by decide) <;> rw [e]
  · rw [Rat.add_mul, Rat.mul_assoc, hq, Rat.one_mul, ← Rat.mul_assoc]; exact k2
  · rw [← Rat.mul_assoc, Rat.mul_assoc 2, hq]; exact k1

theorem scale_err (x z c k : Rat) : x * c + z * c / k = (x + z / k) * c := by
  rw [Rat.add_mul, Rat.div_def, Rat.div_def, Rat.mul_assoc z c, Rat.mul_comm c, ← Rat.mul_assoc]

theorem rn_close (n d : Nat) (hn : 0 < n) (hd : 0 < d) :
    ∃ N D, rn n d = .fin N D ∧ 0 < D ∧
      (N : Rat) / D ≤ (n : Rat) / d + (n : Rat) / d / 2 ^ 53 ∧ (n : Rat) / d ≤ (N : Rat) / D + (n : Rat) / d / 2 ^ 53 := by
  obtain ⟨hb, h52, _, _⟩ := rn_scaled n d hn hd
  generalize hu : upN n d = u at *
  generalize hw : downN (n * 2 ^ u) d = w at *
  obtain ⟨h1, h2⟩ := rhe_rat (n * 2 ^ u) (d * 2 ^ w) hb
  refine ⟨rhe (n * 2 ^ u) (d * 2 ^ w) * 2 ^ w, 2 ^ u, ?_, Nat.pow_pos (by decide), ?_⟩
  · unfold rn
    simp only [Nat.ne_of_gt hn, if_false, hu, hw]
  generalize rhe (n * 2 ^ u) (d * 2 ^ w) = m at *
  -- with z = n·2^u / (d·2^w) ≥ 2^52:  |m − z| ≤ 1/2 ≤ z/2^53;  both sides are then scaled by c = 2^w / 2^u
  have h3 : (2 : Rat) ^ 52 ≤ ((n * 2 ^ u : Nat) : Rat) / ((d * 2 ^ w : Nat) : Rat) :=
    le_div_of_mul_le (natCast_pos hb) (by exact_mod_cast h52)
  have hU : (0 : Rat) < 2 ^ u := Rat.pow_pos (by decide)
  have hW : (0 : Rat) < 2 ^ w := Rat.pow_pos (by decide)
  have hD := Rat.ne_of_gt (natCast_pos hd)
  simp only [Rat.natCast_mul, Rat.natCast_pow, Rat.natCast_ofNat] at h1 h2 h3 ⊢
  generalize (2 : Rat) ^ u = U at *
  generalize (2 : Rat) ^ w = W at *
  have hc : 0 ≤ W / U := le_div_of_mul_le hU (by rw [Rat.zero_mul]; exact Rat.le_of_lt hW)
  have e1 : (n : Rat) / d = (n : Rat) * U / (d * W) * (W / U) := by
    have := Rat.ne_of_gt hU; have := Rat.ne_of_gt hW; grind
  rw [mul_div_assoc', e1]
  generalize (n : Rat) * U / (d * W) = z at *
  have half : 1 / 2 ≤ z / 2 ^ 53 := by
    have := Rat.mul_le_mul_of_nonneg_right h3 (c := (2 ^ 53)⁻¹) (by decide +kernel)
    rwa [← Rat.div_def, ← Rat.div_def, show (2 : Rat) ^ 52 / 2 ^ 53 = 1 / 2 by decide +kernel] at this
  generalize W / U = c at *
  rw [scale_err, scale_err]
  exact ⟨Rat.mul_le_mul_of_nonneg_right (Rat.le_trans h1 (Rat.add_le_add_left.2 half)) hc,
    Rat.mul_le_mul_of_nonneg_right (Rat.le_trans h2 (Rat.add_le_add_left.2 half)) hc⟩

theorem fmt_close (k N D : Nat) (hD : 0 < D) :
    ((digits k (.fin N D) : Nat) : Rat) / 10 ^ k ≤ (N : Rat) / D + 1 / (2 * 10 ^ k) ∧
    (N : Rat) / D ≤ ((digits k (.fin N D) : Nat) : Rat) / 10 ^ k + 1 / (2 * 10 ^ k) := by
  obtain ⟨h1, h2⟩ := rhe_rat (N * 10 ^ k) D hD
  have hT : (0 : Rat) < 10 ^ k := Rat.pow_pos (by decide)
  have hT' := Rat.ne_of_gt hT
  simp only [digits, Rat.natCast_mul, Rat.natCast_pow, Rat.natCast_ofNat] at h1 h2 ⊢
  generalize (10 : Rat) ^ k = T at *
  have e1 : (N : Rat) / D * T = N * T / D := by rw [Rat.div_def, Rat.div_def, Rat.mul_assoc, Rat.mul_comm _ T, Rat.mul_assoc]
  have e2 : (1 : Rat) / (2 * T) * T = 1 / 2 := by
    rw [Rat.div_def, Rat.inv_mul_rev, Rat.mul_comm T⁻¹, Rat.mul_assoc, Rat.mul_assoc, Rat.inv_mul_cancel _ hT', Rat.mul_one, ← Rat.div_def]
  constructor <;> apply Rat.le_of_mul_le_mul_right _ hT <;> rw [Rat.add_mul, Rat.div_mul_cancel hT', e1, e2] <;> assumption

theorem ofNat_exact (x : Nat) (hx0 : 0 < x) (hx : x < 2 ^ 53) : ∃ u, ofNat x = .fin (x * 2 ^ u) (2 ^ u) := by
  refine ⟨upN x 1, ?_⟩
  have hs := upN_spec x 1 hx0
  have hw : downN (x * 2 ^ upN x 1) 1 = 0 := by
    apply downN_zero
    cases hu : upN x 1 with
    | zero => omega
    | succ u => exact hu ▸ hs.2 (by omega)
  unfold ofNat rn
  simp only [Nat.ne_of_gt hx0, if_false, hw, Nat.pow_zero, Nat.mul_one]
  rw [show rhe (x * 2 ^ upN x 1) 1 = x * 2 ^ upN x 1 from by simpa using rhe_exact (x * 2 ^ upN x 1) 1 (by decide)]

def V.Fin (v : V) : Prop := ∃ N D, v = .fin N D ∧ 0 < D

def Rel (k : Rat) (x q : Rat) : Prop := x ≤ q + k * q / 2 ^ 53 ∧ q ≤ x + k * q / 2 ^ 53

/-- one rounding, with the exact value `q` in the form the caller has it -/
theorem rn_val {n d : Nat} {q : Rat} (hd : 0 < d) (hq : (n : Rat) / d = q) : (rn n d).Fin ∧ Rel 1 (rn n d).val q := by
  subst hq
  by_cases hn : n = 0
  · subst hn
    refine ⟨⟨0, 1, by simp [rn], by decide⟩, ?_⟩
    simp [rn, V.val, Rel, Rat.div_def, Rat.mul_zero, Rat.add_zero]
  · obtain ⟨N, D, h, hD, c1, c2⟩ := rn_close n d (Nat.pos_of_ne_zero hn) hd
    refine ⟨⟨N, D, h, hD⟩, ?_⟩
    rw [h]; simp only [V.val, Rel, Rat.one_mul]
    exact ⟨c1, c2⟩

theorem div_val (x y : V) (hx : x.Fin) (hy : y.Fin) (hpos : 0 < y.val) :
    (div x y).Fin ∧ Rel 1 (div x y).val (x.val / y.val) := by
  obtain ⟨a, b, rfl, hb⟩ := hx
  obtain ⟨c, d, rfl, hd⟩ := hy
  have hc : c ≠ 0 := by
    intro h; subst h; simp [V.val, Rat.div_def, Rat.zero_mul] at hpos
  have hb' := Rat.ne_of_gt (natCast_pos hb)
  have hc' := Rat.ne_of_gt (natCast_pos (Nat.pos_of_ne_zero hc))
  have hd' := Rat.ne_of_gt (natCast_pos hd)
  rw [show div (.fin a b) (.fin c d) = rn (a * d) (b * c) by simp [div, hc]]
  exact rn_val (Nat.mul_pos hb (Nat.pos_of_ne_zero hc)) (by simp only [Rat.natCast_mul, V.val]; grind)

theorem mul_val (x y : V) (hx : x.Fin) (hy : y.Fin) : (mul x y).Fin ∧ Rel 1 (mul x y).val (x.val * y.val) := by
  obtain ⟨a, b, rfl, hb⟩ := hx
  obtain ⟨c, d, rfl, hd⟩ := hy
  have hb' := Rat.ne_of_gt (natCast_pos hb)
  have hd' := Rat.ne_of_gt (natCast_pos hd)
  exact rn_val (Nat.mul_pos hb hd) (by simp only [Rat.natCast_mul, V.val]; grind)

theorem ofNat_val (x : Nat) (hx : x < 2 ^ 53) : (ofNat x).Fin ∧ (ofNat x).val = x := by
  by_cases h0 : x = 0
  · subst h0; exact ⟨⟨0, 1, rfl, by decide⟩, by simp [ofNat, rn, V.val, Rat.div_def, Rat.zero_mul]⟩
  · obtain ⟨u, hu⟩ := ofNat_exact x (Nat.pos_of_ne_zero h0) hx
    refine ⟨⟨_, _, hu, Nat.pow_pos (by decide)⟩, ?_⟩
    rw [hu]; simp only [V.val, Rat.natCast_mul]
    exact Rat.mul_div_cancel (Rat.ne_of_gt (natCast_pos (Nat.pow_pos (by decide))))

def shown (k : Nat) (v : V) : Rat := ((digits k v : Nat) : Rat) / 10 ^ k

/-- closeness of a printed figure to its exact value `E`: half a unit of the last printed digit plus `K` rounding errors -/
def Shows (k : Nat) (K : Rat) (v : V) (E : Rat) : Prop :=
  shown k v ≤ E + K * E / 2 ^ 53 + 1 / (2 * 10 ^ k) ∧ E ≤ shown k v + K * E / 2 ^ 53 + 1 / (2 * 10 ^ k)

theorem Rel.shows {k : Nat} {K E : Rat} {v : V} (hv : v.Fin) (h : Rel K v.val E) : Shows k K v E := by
  obtain ⟨N, D, rfl, hD⟩ := hv
  have ⟨f1, f2⟩ := fmt_close k N D hD
  exact ⟨Rat.le_trans f1 (Rat.add_le_add_right.2 h.1),
    Rat.le_trans h.2 (by rw [Rat.add_assoc, Rat.add_comm _ (1 / _), ← Rat.add_assoc]; exact Rat.add_le_add_right.2 f2)⟩

/-! ## error propagation

Relative error bounds `|x − q| ≤ k·q/2^53` (`Rel`) do not compose exactly: the product of two of them has a second-order term.
Bounds by a *factor* do: `Within r x q` says `x ≤ q·r` and `q ≤ x·r`, and factors simply multiply under `*`, `/` and
composition.  One rounding is the factor `rho = 1/(1 − 2^-53)`; at the end a product of factors is compared with `1 + K/2^53`
numerically. -/

theorem rel_iff {k x q : Rat} : Rel k x q ↔ x ≤ q * (1 + k / 2 ^ 53) ∧ q * (1 - k / 2 ^ 53) ≤ x := by
  have e : k * q / 2 ^ 53 = q * (k / 2 ^ 53) := by rw [Rat.div_def, Rat.div_def, ← Rat.mul_assoc, Rat.mul_comm q k]
  rw [Rel, e, Rat.sub_eq_add_neg, Rat.mul_add, Rat.mul_add, Rat.mul_neg, Rat.mul_one, ← Rat.sub_eq_add_neg,
    Rat.sub_right_le_iff_le_add]

def rho : Rat := 2 ^ 53 / (2 ^ 53 - 1)

structure Within (r x q : Rat) : Prop where
  r0 : 0 ≤ r
  x0 : 0 ≤ x
  q0 : 0 ≤ q
  le : x ≤ q * r
  ge : q ≤ x * r

theorem Within.refl {x : Rat} (h : 0 ≤ x) : Within 1 x x :=
  ⟨by decide, h, h, by rw [Rat.mul_one]; exact Rat.le_refl, by rw [Rat.mul_one]; exact Rat.le_refl⟩

theorem Within.pos {r x q : Rat} (h : Within r x q) (hq : 0 < q) : 0 < x := by
  apply Rat.lt_of_le_of_ne h.x0
  intro e; subst e
  have := h.ge; rw [Rat.zero_mul] at this; exact Rat.not_lt.2 this hq

theorem Within.trans {r s x y q : Rat} (h₁ : Within r x q) (h₂ : Within s y x) : Within (r * s) y q where
  r0 := Rat.mul_nonneg h₁.r0 h₂.r0
  x0 := h₂.x0
  q0 := h₁.q0
  le := Rat.le_trans h₂.le (by rw [← Rat.mul_assoc]; exact Rat.mul_le_mul_of_nonneg_right h₁.le h₂.r0)
  ge := Rat.le_trans h₁.ge (by rw [Rat.mul_comm r, ← Rat.mul_assoc]; exact Rat.mul_le_mul_of_nonneg_right h₂.ge h₁.r0)

theorem Within.mul {r s x y p q : Rat} (h₁ : Within r x p) (h₂ : Within s y q) : Within (r * s) (x * y) (p * q) where
  r0 := Rat.mul_nonneg h₁.r0 h₂.r0
  x0 := Rat.mul_nonneg h₁.x0 h₂.x0
  q0 := Rat.mul_nonneg h₁.q0 h₂.q0
  le := mul_mul_mul_comm' .. ▸ mul_le_mul' h₁.le h₂.le h₂.x0 (Rat.mul_nonneg h₁.q0 h₁.r0)
  ge := mul_mul_mul_comm' .. ▸ mul_le_mul' h₁.ge h₂.ge h₂.q0 (Rat.mul_nonneg h₁.x0 h₁.r0)

theorem inv_le_inv_mul {s y q : Rat} (hq : 0 < q) (hy : 0 < y) (h : q ≤ y * s) : y⁻¹ ≤ q⁻¹ * s := by
  apply Rat.le_of_mul_le_mul_right _ hy
  rw [Rat.inv_mul_cancel _ (Rat.ne_of_gt hy), Rat.mul_assoc, Rat.mul_comm q⁻¹, ← Rat.div_def]
  exact le_div_of_mul_le hq (by rw [Rat.one_mul, Rat.mul_comm]; exact h)

theorem Within.inv {s y q : Rat} (h : Within s y q) (hq : 0 < q) : Within s y⁻¹ q⁻¹ :=
  have hy := h.pos hq
  ⟨h.r0, Rat.le_of_lt (Rat.inv_pos.2 hy), Rat.le_of_lt (Rat.inv_pos.2 hq), inv_le_inv_mul hq hy h.ge, inv_le_inv_mul hy hq h.le⟩

theorem Within.div {r s x y p q : Rat} (h₁ : Within r x p) (h₂ : Within s y q) (hq : 0 < q) :
    Within (r * s) (x / y) (p / q) := by
  rw [Rat.div_def, Rat.div_def]; exact h₁.mul (h₂.inv hq)

/-- one rounding is the factor `rho`: `1 + 2^-53 ≤ rho` and `(1 − 2^-53)·rho = 1` -/
theorem Rel.within {x q : Rat} (h : Rel 1 x q) (hq : 0 ≤ q) : Within rho x q := by
  obtain ⟨h1, h2⟩ := rel_iff.1 h
  have r0 : 0 ≤ rho := by decide +kernel
  refine ⟨r0, Rat.le_trans (Rat.mul_nonneg hq (by decide +kernel)) h2, hq,
    Rat.le_trans h1 (Rat.mul_le_mul_of_nonneg_left (by decide +kernel) hq), ?_⟩
  have := Rat.mul_le_mul_of_nonneg_right h2 r0
  rwa [Rat.mul_assoc, show (1 - 1 / 2 ^ 53) * rho = 1 by decide +kernel, Rat.mul_one] at this

/-- a factor `r ≤ 1 + t`, `t = K/2^53`, is a relative error of `t`: `q·(1 − t) ≤ x·r·(1 − t) ≤ x·(1 − t²) ≤ x` when `t ≤ 1` -/
theorem Within.rel {r x q K : Rat} (h : Within r x q) (hK : r ≤ 1 + K / 2 ^ 53) : Rel K x q := by
  refine rel_iff.2 ⟨Rat.le_trans h.le (Rat.mul_le_mul_of_nonneg_left hK h.q0), ?_⟩
  generalize K / 2 ^ 53 = t at *
  cases Rat.le_total (a := t) (b := 1) with
  | inl ht =>
    have t0 : 0 ≤ 1 - t := (Rat.le_iff_sub_nonneg _ _).1 ht
    have a1 := Rat.mul_le_mul_of_nonneg_right h.ge t0
    have a2 := Rat.mul_le_mul_of_nonneg_right (Rat.mul_le_mul_of_nonneg_left hK h.x0) t0
    have a3 := Rat.mul_nonneg h.x0 (Lean.Grind.OrderedRing.sq_nonneg (a := t))
    grind
  | inr ht =>
    have := Rat.mul_le_mul_of_nonneg_left ht h.q0
    have := h.x0
    grind

structure Approx (r : Rat) (v : V) (q : Rat) : Prop where
  fin : v.Fin
  within : Within r v.val q

theorem approx_rn {n d : Nat} {q : Rat} (hd : 0 < d) (hq : (n : Rat) / d = q) (q0 : 0 ≤ q) : Approx rho (rn n d) q :=
  ⟨(rn_val hd hq).1, (rn_val hd hq).2.within q0⟩

theorem approx_ofNat (x : Nat) : Approx rho (ofNat x) x := approx_rn (by decide) (by grind) Rat.natCast_nonneg

theorem approx_ofNat_lt {x : Nat} (hx : x < 2 ^ 53) : Approx 1 (ofNat x) x :=
  ⟨(ofNat_val x hx).1, by rw [(ofNat_val x hx).2]; exact .refl Rat.natCast_nonneg⟩

theorem approx_c1em8 : Approx rho c1em8 (1 / 10 ^ 8) :=
  approx_rn (by decide) (by rw [Rat.natCast_pow]; rfl) (by decide +kernel)

theorem Approx.round {r x q : Rat} {v : V} (h : Within r x q) (fe : v.Fin ∧ Rel 1 v.val x) : Approx (r * rho) v q :=
  ⟨fe.1, h.trans (fe.2.within h.x0)⟩

theorem Approx.div {r s p q : Rat} {x y : V} (hx : Approx r x p) (hy : Approx s y q) (hq : 0 < q) :
    Approx (r * s * rho) (div x y) (p / q) :=
  .round (hx.within.div hy.within hq) (div_val x y hx.fin hy.fin (hy.within.pos hq))

theorem Approx.mul {r s p q : Rat} {x y : V} (hx : Approx r x p) (hy : Approx s y q) :
    Approx (r * s * rho) (mul x y) (p * q) :=
  .round (hx.within.mul hy.within) (mul_val x y hx.fin hy.fin)

theorem Approx.shows {r K E : Rat} {v : V} (h : Approx r v E) (k : Nat) (hK : r ≤ 1 + K / 2 ^ 53) : Shows k K v E :=
  Rel.shows h.fin (h.within.rel hK)

theorem rel_div11 {X Y qx qy : Rat} (hx : Rel 1 X qx) (hy : Rel 1 Y qy) (hqx : 0 ≤ qx) (hqy : 0 < qy) :
    Rel 4 (X / Y) (qx / qy) :=
  ((hx.within hqx).div (hy.within (Rat.le_of_lt hqy)) hqy).rel (by decide +kernel)

theorem rel_mul11 {X C qx qc : Rat} (hx : Rel 1 X qx) (hc : Rel 1 C qc) (hqx : 0 ≤ qx) (hqc : 0 ≤ qc) (hX : 0 ≤ X) (hC : 0 ≤ C) :
    Rel 3 (X * C) (qx * qc) :=
  ((hx.within hqx).mul (hc.within hqc)).rel (by decide +kernel)

theorem div_any (a b : Nat) (hb0 : 0 < b) :
    (div (ofNat a) (ofNat b)).Fin ∧ Rel 6 (div (ofNat a) (ofNat b)).val ((a : Rat) / b) :=
  have h := (approx_ofNat a).div (approx_ofNat b) (natCast_pos hb0)
  ⟨h.fin, h.within.rel (by decide +kernel)⟩

theorem div_small (a b : Nat) (ha : a < 2 ^ 53) (hb0 : 0 < b) (hb : b < 2 ^ 53) :
    (div (ofNat a) (ofNat b)).Fin ∧ Rel 1 (div (ofNat a) (ofNat b)).val ((a : Rat) / b) := by
  obtain ⟨fa, va⟩ := ofNat_val a ha
  obtain ⟨fb, vb⟩ := ofNat_val b hb
  have h := div_val _ _ fa fb (by rw [vb]; exact natCast_pos hb0)
  rwa [va, vb] at h

theorem mean_pos {sum len : Nat} (h : 0 < len) : mean sum len = div (ofNat sum) (ofNat len) := if_neg (Nat.ne_of_gt h)

/-! ## every figure of the report: printed value vs exact quotient.
`_shows`: accumulators below 2^53, whose conversions are exact; `_shows_any`: any accumulators, whose conversions round too -/

/-- **`a as f64 / b as f64` printed with `{:.2}`** (avg txs per block, inputs per tx, outputs per tx) -/
theorem ratio_shows (a b : Nat) (ha : a < 2 ^ 53) (hb0 : 0 < b) (hb : b < 2 ^ 53) :
    ∃ v, v.Fin ∧ ratio a b = fmt 2 v ∧ Shows 2 1 v ((a : Rat) / b) :=
  have ⟨fd, rd⟩ := div_small a b ha hb0 hb
  ⟨_, fd, rfl, rd.shows fd⟩

theorem ratio_shows_any (a b : Nat) (hb0 : 0 < b) : ∃ v, v.Fin ∧ ratio a b = fmt 2 v ∧ Shows 2 6 v ((a : Rat) / b) :=
  have h := (approx_ofNat a).div (approx_ofNat b) (natCast_pos hb0)
  ⟨_, h.fin, rfl, h.shows 2 (by decide +kernel)⟩

/-- **`get_mean(xs) / c` printed with `{:.2}`** (avg block size in KiB: c = 1024; avg minutes between blocks: c = 60) -/
theorem meanOver_shows (sum len c : Nat) (hs : sum < 2 ^ 53) (hl0 : 0 < len) (hl : len < 2 ^ 53) (hc0 : 0 < c) (hc : c < 2 ^ 53) :
    ∃ v, v.Fin ∧ meanOver sum len c = fmt 2 v ∧ Shows 2 3 v ((sum : Rat) / len / c) :=
  have h := ((approx_ofNat_lt hs).div (approx_ofNat_lt hl) (natCast_pos hl0)).div (approx_ofNat_lt hc) (natCast_pos hc0)
  ⟨_, h.fin, by rw [meanOver, mean_pos hl0], h.shows 2 (by decide +kernel)⟩

theorem meanOver_shows_any (sum len c : Nat) (hl0 : 0 < len) (hc0 : 0 < c) (hc : c < 2 ^ 53) :
    ∃ v, v.Fin ∧ meanOver sum len c = fmt 2 v ∧ Shows 2 8 v ((sum : Rat) / len / c) :=
  have h := ((approx_ofNat sum).div (approx_ofNat len) (natCast_pos hl0)).div (approx_ofNat_lt hc) (natCast_pos hc0)
  ⟨_, h.fin, by rw [meanOver, mean_pos hl0], h.shows 2 (by decide +kernel)⟩

/-- **`x as f64 * 1E-8` printed with `{:.8}`** (total fees, total volume, biggest transaction value, in coins) -/
theorem coins_shows (x : Nat) (hx : x < 2 ^ 53) : ∃ v, v.Fin ∧ coins x = fmt 8 v ∧ Shows 8 3 v ((x : Rat) * (1 / 10 ^ 8)) :=
  have h := (approx_ofNat_lt hx).mul approx_c1em8
  ⟨_, h.fin, rfl, h.shows 8 (by decide +kernel)⟩

theorem coins_shows_any (x : Nat) : ∃ v, v.Fin ∧ coins x = fmt 8 v ∧ Shows 8 5 v ((x : Rat) * (1 / 10 ^ 8)) :=
  have h := (approx_ofNat x).mul approx_c1em8
  ⟨_, h.fin, rfl, h.shows 8 (by decide +kernel)⟩

theorem approx_100 : Approx 1 (ofNat 100) 100 := approx_ofNat_lt (x := 100) (by decide)

/-- **`(count as f64 / outs as f64) * 100.00` printed with `{:.2}`** (share of a script type) -/
theorem share_shows (count outs : Nat) (hc : count < 2 ^ 53) (ho0 : 0 < outs) (ho : outs < 2 ^ 53) :
    ∃ v, v.Fin ∧ share count outs = fmt 2 v ∧ Shows 2 3 v ((count : Rat) / outs * 100) :=
  have h := ((approx_ofNat_lt hc).div (approx_ofNat_lt ho) (natCast_pos ho0)).mul approx_100
  ⟨_, h.fin, rfl, h.shows 2 (by decide +kernel)⟩

theorem share_shows_any (count outs : Nat) (ho0 : 0 < outs) :
    ∃ v, v.Fin ∧ share count outs = fmt 2 v ∧ Shows 2 8 v ((count : Rat) / outs * 100) :=
  have h := ((approx_ofNat count).div (approx_ofNat outs) (natCast_pos ho0)).mul approx_100
  ⟨_, h.fin, rfl, h.shows 2 (by decide +kernel)⟩

/-- **`volume as f64 / outs as f64 * 1E-8` printed with `{:.2}`** (average value per output, in coins) -/
theorem valuePerOutput_shows (vol outs : Nat) (hv : vol < 2 ^ 53) (ho0 : 0 < outs) (ho : outs < 2 ^ 53) :
    ∃ v, v.Fin ∧ valuePerOutput vol outs = fmt 2 v ∧ Shows 2 4 v ((vol : Rat) / outs * (1 / 10 ^ 8)) :=
  have h := ((approx_ofNat_lt hv).div (approx_ofNat_lt ho) (natCast_pos ho0)).mul approx_c1em8
  ⟨_, h.fin, rfl, h.shows 2 (by decide +kernel)⟩

theorem valuePerOutput_shows_any (vol outs : Nat) (ho0 : 0 < outs) :
    ∃ v, v.Fin ∧ valuePerOutput vol outs = fmt 2 v ∧ Shows 2 10 v ((vol : Rat) / outs * (1 / 10 ^ 8)) :=
  have h := ((approx_ofNat vol).div (approx_ofNat outs) (natCast_pos ho0)).mul approx_c1em8
  ⟨_, h.fin, rfl, h.shows 2 (by decide +kernel)⟩

/-- `ratio_shows` with `Shows` unfolded: the printed `s / 100` has `|s/100 − a/b| ≤ 1/200 + (a/b)/2^53` -/
theorem ratio_close (a b : Nat) (ha0 : 0 < a) (ha : a < 2 ^ 53) (hb0 : 0 < b) (hb : b < 2 ^ 53) :
    ∃ v, div (ofNat a) (ofNat b) = v ∧ ratio a b = fmt 2 v ∧ (∃ N D, v = .fin N D) ∧
      ((digits 2 v : Nat) : Rat) / 10 ^ 2 ≤ (a : Rat) / b + (a : Rat) / b / 2 ^ 53 + 1 / (2 * 10 ^ 2) ∧
      (a : Rat) / b ≤ ((digits 2 v : Nat) : Rat) / 10 ^ 2 + (a : Rat) / b / 2 ^ 53 + 1 / (2 * 10 ^ 2) := by
  obtain ⟨fd, rd⟩ := div_small a b ha hb0 hb
  have := rd.shows (k := 2) fd
  simp only [Shows, shown, Rat.one_mul] at this
  obtain ⟨N, D, e, -⟩ := fd
  exact ⟨_, rfl, rfl, ⟨N, D, e⟩, this⟩
end F64
