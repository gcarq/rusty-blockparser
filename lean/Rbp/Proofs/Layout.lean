import Rbp.Proofs.Loop
import Rbp.Proofs.Record
/-!
# Whole-run independence from the physical layout and from XOR obfuscation (C03, C11)

`driveLoop` looks at the blk files only through `fetch`: "the file named by the record, read at the record's offset".
Two (key, file table) pairs that answer `fetch` identically for every record of the index are indistinguishable
for the whole run — events, rows, exit status, everything.
-/
namespace Run
open Wk CB

section
variable {coin : Coin} {o : Opts} {k₁ k₂ : Option W.Bytes} {fm₁ fm₂ : List (Nat × BlkFile)} {full tr : List (Nat × Rec)}
  (hf : ∀ ht r, lookup tr ht = some r → fetch coin k₁ fm₁ r = fetch coin k₂ fm₂ r)
include hf

theorem serve_congr (h : Nat) : serve coin o k₁ fm₁ tr h = serve coin o k₂ fm₂ tr h := by
  unfold serve
  cases hl : lookup tr h with
  | none => rfl
  | some r => rw [Option.map_some, Option.map_some, hf h r hl]

theorem book_congr (h : Nat) (s : List Nat × List Ev) : book coin k₁ fm₁ full tr h s = book coin k₂ fm₂ full tr h s := by
  unfold book
  cases hl : lookup tr h with
  | none => rfl
  | some r => simp only [hf h r hl]

theorem driveLoop_congr : ∀ (n h : Nat) (opened : List Nat) (acc : List EBlock) (evs : List Ev),
    driveLoop coin o k₁ fm₁ full tr h n opened acc evs = driveLoop coin o k₂ fm₂ full tr h n opened acc evs
  | 0, _, _, _, _ => by simp [driveLoop]
  | n + 1, h, _, _, _ => by
    rw [driveLoop_succ, driveLoop_succ, serve_congr hf, book_congr hf]
    cases serve coin o k₂ fm₂ tr h with
    | error e => rfl
    | ok b => exact driveLoop_congr n (h + 1) _ _ _
end

/-- the common form of `C03.same_index_same_reads` and `run_xor_eq_plain` -/
theorem run_same_reads (o : Opts) (k₁ k₂ : Option W.Bytes) (kvs : List (W.Bytes × W.Bytes)) (fs₁ fs₂ : List BlkFile)
    (hk₁ : k₁ ≠ some []) (hk₂ : k₂ ≠ some [])
    (hn₁ : blkTable fs₁ ≠ []) (hn₂ : blkTable fs₂ ≠ [])
    (hf : ∀ coin ld, coinOf o.coin = some coin → loadIndex o kvs = .ok ld → ∀ ht r, lookup ld.trimmed ht = some r →
      fetch coin k₁ (blkTable fs₁) r = fetch coin k₂ (blkTable fs₂) r) :
    run o k₁ kvs fs₁ = run o k₂ kvs fs₂ := by
  cases hc : coinOf o.coin with
  | none => simp only [run, hc]
  | some coin =>
    cases hl : loadIndex o kvs with
    | err m => simp only [run, hc, hl]
    | panic m => simp only [run, hc, hl]
    | ok ld =>
      rw [run_eq_report hc hl hn₁ hk₁, run_eq_report hc hl hn₂ hk₂, driveLoop_congr (hf coin ld hc hl),
        funext (serve_congr (hf coin ld hc hl))]

theorem readAt_xor (coin : Coin) (k : W.Bytes) (f g : BlkFile) (off : Nat)
    (hx : bytesFrom g (off - 4) = X.xorAt k (off - 4) (bytesFrom f (off - 4))) :
    readAt coin (some k) g off = readAt coin none f off := by
  unfold readAt
  by_cases h4 : off < 4
  · simp [h4]
  · simp only [h4, if_false]
    rw [hx, parseAt_xor]
    rfl

/-- key and files enter `fetch` only through the table file number ↦ read function, so two directories compare table against table -/
theorem fetch_table (coin : Coin) (key : Option W.Bytes) (fm : List (Nat × BlkFile)) (r : Rec) :
    fetch coin key fm r =
      ((fm.map fun p => (p.1, fun coin => readAt coin key p.2)).find? (·.1 == r.file)).map (·.2 coin r.off) := by
  simp [fetch, fileOf, List.find?_map, Function.comp_def]

theorem blkTable_map_congr {β : Type} (F G : BlkFile → β) : ∀ (l₁ l₂ : List BlkFile), l₁.map (·.name) = l₂.map (·.name) →
    (∀ i (h₁ : i < l₁.length) (h₂ : i < l₂.length), F l₁[i] = G l₂[i]) →
    (blkTable l₁).map (fun p => (p.1, F p.2)) = (blkTable l₂).map (fun p => (p.1, G p.2))
  | [], l₂, hm, _ => by rw [List.map_eq_nil_iff.mp hm.symm]; rfl
  | _ :: _, [], hm, _ => by cases hm
  | f :: l₁, g :: l₂, hm, hb => by
    rw [List.map_cons, List.map_cons, List.cons.injEq] at hm
    have hrest := blkTable_map_congr F G l₁ l₂ hm.2 fun i h₁ h₂ => hb (i + 1) (Nat.succ_lt_succ h₁) (Nat.succ_lt_succ h₂)
    simp only [blkTable, List.filterMap_cons, hm.1]
    cases parseBlkIndex g.name with
    | none => exact hrest
    | some m => simp only [Option.map_some, List.map_cons, hrest, show F f = G g from hb 0 (Nat.zero_lt_succ _) (Nat.zero_lt_succ _)]

theorem run_xor_eq_plain (o : Opts) (k : W.Bytes) (hk : k ≠ []) (kvs : List (W.Bytes × W.Bytes)) (plain obf : List BlkFile)
    (hnames : obf.map (·.name) = plain.map (·.name))
    (hne : (plain.filterMap fun f => (parseBlkIndex f.name).map fun n => (n, f)) ≠ [])
    (hx : ∀ i (hi : i < plain.length) (hj : i < obf.length) p,
      bytesFrom obf[i] p = X.xorAt k p (bytesFrom plain[i] p)) :
    run o (some k) kvs obf = run o none kvs plain := by
  -- the two number → file tables hold, entry by entry, the same read function
  have key := blkTable_map_congr (fun g coin => readAt coin (some k) g) (fun f coin => readAt coin none f) obf plain hnames
    fun i hj hi => funext fun coin => funext fun off => readAt_xor coin k _ _ off (hx i hi hj _)
  have hne' : blkTable obf ≠ [] := fun he => by
    rw [he] at key
    exact hne (List.map_eq_nil_iff.mp key.symm)
  apply run_same_reads o (some k) none kvs obf plain (by simpa using hk) (by simp) hne' hne
  intro coin ld _ _ ht r _
  rw [fetch_table, fetch_table, key]

/-- what the run can see of an index entry: the block hash (used by --verify for the next height) and what reading it yields -/
def view (coin : Coin) (key : Option W.Bytes) (fm : List (Nat × BlkFile)) (tr : List (Nat × Rec)) (h : Nat) :
    Option (W.Bytes × Option (Res (Nat × Csv.RBlock))) :=
  (lookup tr h).map fun r => (r.hash, fetch coin key fm r)

theorem verifyBlock_view (coin : Coin) (tr₁ tr₂ : List (Nat × Rec)) (b : Csv.RBlock) (h : Nat)
    (hv : (lookup tr₁ (h - 1)).map (·.hash) = (lookup tr₂ (h - 1)).map (·.hash)) :
    verifyBlock coin tr₁ b h = verifyBlock coin tr₂ b h := by
  unfold verifyBlock
  cases h1 : lookup tr₁ (h - 1) <;> cases h2 : lookup tr₂ (h - 1) <;> rw [h1, h2] at hv
  · cases hv
  · cases hv
  · rw [Option.map_some, Option.map_some, Option.some.injEq] at hv
    simp only [hv]

theorem serve_view {coin : Coin} {o : Opts} {k₁ k₂ : Option W.Bytes} {fm₁ fm₂ : List (Nat × BlkFile)} {tr₁ tr₂ : List (Nat × Rec)}
    (hv : ∀ h, view coin k₁ fm₁ tr₁ h = view coin k₂ fm₂ tr₂ h) (h : Nat) :
    serve coin o k₁ fm₁ tr₁ h = serve coin o k₂ fm₂ tr₂ h := by
  have e : (lookup tr₁ h).map (fetch coin k₁ fm₁) = (lookup tr₂ h).map (fetch coin k₂ fm₂) := by
    simpa [view, Function.comp_def] using congrArg (Option.map (·.2)) (hv h)
  have p : ∀ b, verifyBlock coin tr₁ b h = verifyBlock coin tr₂ b h := fun b =>
    verifyBlock_view coin tr₁ tr₂ b h (by simpa [view, Function.comp_def] using congrArg (Option.map (·.1)) (hv (h - 1)))
  simp only [serve, e, p]

/-- the observables of a run other than the Opening/Closing trace -/
def Output.visible (x : Output) : Nat × Option Nat × String × List Nat × List W.Bytes × List (String × List String) × List String :=
  (x.exit, x.errHeight, x.msg, x.delivered, x.hashes, x.files, x.stdout)

theorem report_visible (o : Opts) (ver : UInt8) (r : List EBlock × End) (evs evs' : List Ev) :
    (report o ver r evs).visible = (report o ver r evs').visible := by
  unfold report Output.visible
  split
  · rfl
  · rfl
  · split <;> rfl

/-- a blk file without holes: one segment from offset 0 to the end -/
def dense (name : String) (d : W.Bytes) : BlkFile := ⟨name, d.length, [⟨0, d⟩]⟩

theorem bytesFrom_dense (name : String) (d : W.Bytes) (p : Nat) : bytesFrom (dense name d) p = d.drop p := by
  unfold bytesFrom dense
  by_cases hp : p ≥ d.length
  · simp [hp, List.drop_eq_nil_of_le hp]
  · simp only [hp, if_false]
    have : (decide (0 ≤ p) && decide (p < 0 + d.length)) = true := by simp; omega
    simp only [List.find?_cons, this, Nat.sub_zero]
    rw [List.take_of_length_le]
    simp

theorem xorAt_length (k : W.Bytes) : ∀ (p : Nat) (bs : W.Bytes), (X.xorAt k p bs).length = bs.length :=
  X.xorAt_length k

theorem run_xor_dense (o : Opts) (k : W.Bytes) (hk : k ≠ []) (kvs : List (W.Bytes × W.Bytes)) (dir : List (String × W.Bytes))
    (hne : ((dir.map fun f => dense f.1 f.2).filterMap fun f => (parseBlkIndex f.name).map fun n => (n, f)) ≠ []) :
    run o (some k) kvs (dir.map fun f => dense f.1 (X.xorAt k 0 f.2)) = run o none kvs (dir.map fun f => dense f.1 f.2) := by
  apply run_xor_eq_plain o k hk kvs _ _ (by simp [dense, Function.comp_def]) hne
  intro i hi hj p
  simp only [List.getElem_map]
  rw [bytesFrom_dense, bytesFrom_dense, X.xorAt_drop, Nat.zero_add]
end Run
