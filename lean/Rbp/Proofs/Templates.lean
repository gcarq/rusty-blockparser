import Rbp.Model.Script
/-! Byte-template characterisations of the rust-bitcoin predicates as modelled in `S` (C05). -/
namespace S

theorem decompose (s pre suf : Bytes) (n : Nat)
    (hlen : s.length = pre.length + n + suf.length)
    (hpre : s.take pre.length = pre)
    (hsuf : s.drop (pre.length + n) = suf) :
    ∃ mid, mid.length = n ∧ s = pre ++ mid ++ suf := by
  refine ⟨(s.drop pre.length).take n, by rw [List.length_take, List.length_drop]; omega, ?_⟩
  rw [← List.drop_drop] at hsuf
  conv => lhs; rw [← List.take_append_drop pre.length s, ← List.take_append_drop n (s.drop pre.length), hpre, hsuf, ← List.append_assoc]

theorem get_cons_zero (a : UInt8) (s : Bytes) : get (a :: s) 0 = a := rfl
theorem get_cons_succ (a : UInt8) (s : Bytes) (i : Nat) : get (a :: s) (i + 1) = get s i := by
  simp [get, List.getD]
theorem get_append_right (s t : Bytes) (i : Nat) : get (s ++ t) (s.length + i) = get t i := by
  simp [get, List.getD, List.getElem?_append_right]
theorem get_append_left (s t : Bytes) (i : Nat) (h : i < s.length) : get (s ++ t) i = get s i := by
  simp [get, List.getD, List.getElem?_append_left h]

theorem get_eq_getElem (s : Bytes) (i : Nat) (h : i < s.length) : get s i = s[i] := by
  simp [get, List.getD, List.getElem?_eq_getElem h]

theorem get_template (s pre suf : Bytes) (n : Nat) :
    (s.length = pre.length + n + suf.length ∧ (∀ i < pre.length, get s i = get pre i) ∧
      (∀ j < suf.length, get s (pre.length + n + j) = get suf j)) ↔ ∃ mid, mid.length = n ∧ s = pre ++ mid ++ suf := by
  constructor
  · rintro ⟨hl, hp, hs⟩
    refine decompose s pre suf n hl (List.ext_getElem (by simp; omega) fun i _ hi => ?_)
      (List.ext_getElem (by simp; omega) fun j _ hj => ?_)
    · rw [List.getElem_take, ← get_eq_getElem, ← get_eq_getElem, hp i hi]
    · rw [List.getElem_drop, ← get_eq_getElem, ← get_eq_getElem, hs j hj]
  · rintro ⟨mid, rfl, rfl⟩
    refine ⟨by simp [Nat.add_assoc], fun i hi => ?_, fun j hj => ?_⟩
    · rw [List.append_assoc, get_append_left _ _ _ hi]
    · rw [← List.length_append, get_append_right]

theorem isP2pkh_iff (s : Bytes) :
    isP2pkh s = true ↔ ∃ h : Bytes, h.length = 20 ∧ s = [0x76, 0xa9, 0x14] ++ h ++ [0x88, 0xac] := by
  rw [← get_template]
  simp [isP2pkh, Nat.forall_lt_succ_right, get_cons_zero, get_cons_succ, and_assoc]

theorem isP2sh_iff (s : Bytes) :
    isP2sh s = true ↔ ∃ h : Bytes, h.length = 20 ∧ s = [0xa9, 0x14] ++ h ++ [0x87] := by
  rw [← get_template]
  simp [isP2sh, Nat.forall_lt_succ_right, get_cons_zero, get_cons_succ, and_assoc]

theorem isP2pk_iff (s k : Bytes) :
    isP2pk s = some k ↔ (k.length = 33 ∨ k.length = 65) ∧ s = UInt8.ofNat k.length :: k ++ [0xac] := by
  -- one branch of the predicate, for a key of `n` bytes
  have key : ∀ n : Nat, n < 256 → ((s.length = n + 2 ∧ get s 0 = UInt8.ofNat n ∧ get s (n + 1) = 0xac) ∧ (s.drop 1).take n = k ↔
      k.length = n ∧ s = UInt8.ofNat k.length :: k ++ [0xac]) := by
    intro n hn
    have := get_template s [UInt8.ofNat n] [0xac] n
    simp only [List.length_singleton, Nat.forall_lt_succ_right, Nat.not_lt_zero, false_imp_iff, implies_true, true_and,
      get_cons_zero, Nat.add_zero, Nat.add_comm 1 n] at this
    rw [this]
    constructor
    · rintro ⟨⟨mid, rfl, rfl⟩, rfl⟩; simp
    · rintro ⟨rfl, hs⟩; rw [hs]; exact ⟨⟨k, rfl, rfl⟩, by simp⟩
  rw [or_and_right, ← key 33 (by decide), ← key 65 (by decide), isP2pk]
  by_cases h65 : s.length = 67 ∧ get s 0 = 0x41 ∧ get s 66 = 0xac
  · rw [if_pos h65, Option.some.injEq]
    exact ⟨fun e => .inr ⟨h65, e⟩, fun e => e.elim (fun e => by omega) And.right⟩
  · rw [if_neg h65]
    by_cases h33 : s.length = 35 ∧ get s 0 = 0x21 ∧ get s 34 = 0xac
    · rw [if_pos h33, Option.some.injEq]
      exact ⟨fun e => .inl ⟨h33, e⟩, fun e => e.elim And.right fun e => absurd e.1 h65⟩
    · rw [if_neg h33]
      exact ⟨nofun, fun e => e.elim (fun e => absurd e.1 h33) fun e => absurd e.1 h65⟩

def pkPrefix (testnet : Bool) : UInt8 := if testnet then 0x6f else 0x00
def shPrefix (testnet : Bool) : UInt8 := if testnet then 0xc4 else 0x05
def hrp (testnet : Bool) : String := if testnet then "tb" else "bc"
end S
