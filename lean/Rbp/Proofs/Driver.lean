import Rbp.Proofs.Loop
import Rbp.Proofs.Index
/-!
# The hypotheses of the whole-run theorems: what `loadIndex` returns, and when a height can be served

`Servable` is the per-height hypothesis of the delivery theorems, `Servable.serve` its bridge to the loop of `Proofs/Loop.lean`.
-/
namespace Run
open Wk CB

def Servable (coin : Coin) (o : Opts) (key : Option W.Bytes) (files : List (Nat × BlkFile)) (trimmed : List (Nat × Rec)) (k : Nat) : Prop :=
  ∃ r f sz b, lookup trimmed k = some r ∧ (files.find? (·.1 == r.file)).map (·.2) = some f ∧
    readAt coin key f r.off = .ok (sz, b) ∧ (o.verify = true → verifyBlock coin trimmed b k = .ok ())

theorem Servable.serve {coin : Coin} {o : Opts} {key : Option W.Bytes} {files : List (Nat × BlkFile)} {trimmed : List (Nat × Rec)}
    {k : Nat} (hs : Servable coin o key files trimmed k) : ∃ b, Run.serve coin o key files trimmed k = .ok b ∧ b.height = k := by
  obtain ⟨r, f, sz, b, hl, hf, hr, hv⟩ := hs
  exact ⟨_, serve_ok hl hf hr hv, rfl⟩

theorem verifyBlock_ok_iff (coin : Coin) (idx : List (Nat × Rec)) (b : Csv.RBlock) (h : Nat) :
    verifyBlock coin idx b h = .ok () ↔
      M.rootRust A.sha256d (txids b) = some b.header.merkle ∧ (h = 0 → blockHash b = coin.genesis) ∧
      (h > 0 → ∃ p, lookup idx (h - 1) = some p ∧ b.header.prev = p.hash) := by
  unfold verifyBlock
  cases M.rootRust A.sha256d (txids b) with
  | none => simp
  | some r =>
    by_cases hm : r = b.header.merkle
    · by_cases h0 : h = 0
      · by_cases hg : blockHash b = coin.genesis <;> simp [hm, h0, hg]
      · cases lookup idx (h - 1) with
        | none => simp [hm, h0, Nat.pos_of_ne_zero h0]
        | some p => by_cases hq : b.header.prev = p.hash <;> simp [hm, h0, hq, Nat.pos_of_ne_zero h0]
    · simp [hm]

theorem loadIndex_ok {o : Opts} {kvs : List (W.Bytes × W.Bytes)} {ld : Loaded} (h : loadIndex o kvs = .ok ld) :
    buildIndex kvs = .ok ld.full ∧ ld.full ≠ [] ∧
    ld.maxH = (match o.stop with
      | some e => min e (ld.full.foldl (fun a p => max a p.1) 0)
      | none => ld.full.foldl (fun a p => max a p.1) 0) ∧
    ld.trimmed = if o.start == 0 && o.stop.isNone then ld.full
      else ld.full.filter (fun p => decide (o.start - 1 ≤ p.1) && decide (p.1 ≤ ld.maxH)) := by
  unfold loadIndex at h
  split at h
  · cases h
  · cases h
  · next full hb =>
    split at h
    · cases h
    · next hne =>
      cases h
      refine ⟨hb, hne, ?_, rfl⟩
      cases o.stop with
      | none => rfl
      | some e => dsimp only; split <;> omega

theorem loadIndex_lookup {o : Opts} {kvs : List (W.Bytes × W.Bytes)} {ld : Loaded} (h : loadIndex o kvs = .ok ld) (k : Nat) :
    lookup ld.trimmed k = if (o.start == 0 && o.stop.isNone) || (decide (o.start - 1 ≤ k) && decide (k ≤ ld.maxH))
      then lookup ld.full k else none := by
  rw [(loadIndex_ok h).2.2.2]
  split
  · simp [*]
  · rw [lookup_filter_key ld.full (fun x => decide (o.start - 1 ≤ x) && decide (x ≤ ld.maxH))]
    simp [*]

theorem loadIndex_trimmed {o : Opts} {kvs : List (W.Bytes × W.Bytes)} {ld : Loaded} (h : loadIndex o kvs = .ok ld)
    (k : Nat) (hk1 : o.start - 1 ≤ k) (hk2 : k ≤ ld.maxH) : lookup ld.trimmed k = lookup ld.full k := by
  simp [loadIndex_lookup h, hk1, hk2]
end Run
