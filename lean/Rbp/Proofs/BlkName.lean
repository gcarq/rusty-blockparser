import Rbp.Model.Run
/-!
# blk file names: any zero-padding of the decimal file number parses to that number (C03)
-/
namespace Run

theorem foldl_digits (l : List Char) (a : Nat) :
    l.foldl (fun a c => a * 10 + (c.toNat - 48)) a = Nat.ofDigitChars 10 l a := by
  induction l generalizing a with
  | nil => rfl
  | cons c l ih => rw [List.foldl_cons, ih, Nat.ofDigitChars_cons, Nat.mul_comm]; rfl

theorem parseBlkIndex_mid (mid : List Char) :
    parseBlkIndex (String.ofList ('b' :: 'l' :: 'k' :: (mid ++ ['.', 'd', 'a', 't']))) = parseU64 mid := by
  have h2 : (mid ++ ['.', 'd', 'a', 't']).drop mid.length = ['.', 'd', 'a', 't'] := List.drop_left' rfl
  have h3 : (mid ++ ['.', 'd', 'a', 't']).take mid.length = mid := List.take_left' rfl
  simp [parseBlkIndex, h2, h3]

theorem parseU64_digits (ds : List Char) (hne : ds ≠ []) (hall : ∀ c ∈ ds, c.isDigit = true) (hn : Nat.ofDigitChars 10 ds 0 < 2 ^ 64) :
    parseU64 ds = some (Nat.ofDigitChars 10 ds 0) := by
  have hs : stripPlus ds = ds := by
    unfold stripPlus
    split
    · next r => exact absurd (hall '+' (by simp)) (by decide)
    · rfl
  -- `Run.isDigit c` and `c.isDigit` are the same test up to unfolding
  have hd : ds.all isDigit = true := List.all_eq_true.mpr hall
  simp [parseU64, hs, hd, hne, foldl_digits, hn]

theorem blkname_roundtrip (n k : Nat) (hn : n < 2 ^ 64) :
    parseBlkIndex ("blk" ++ String.ofList (List.replicate k '0') ++ toString n ++ ".dat") = some n := by
  have hname : "blk" ++ String.ofList (List.replicate k '0') ++ toString n ++ ".dat" =
      String.ofList ('b' :: 'l' :: 'k' :: ((List.replicate k '0' ++ Nat.toDigits 10 n) ++ ['.', 'd', 'a', 't'])) := by
    apply String.toList_injective; simp
  have hv : Nat.ofDigitChars 10 (List.replicate k '0' ++ Nat.toDigits 10 n) 0 = n := by
    rw [Nat.ofDigitChars_append, Nat.ofDigitChars_replicate_zero, Nat.mul_zero, Nat.ofDigitChars_ten_toDigits]
  rw [hname, parseBlkIndex_mid, parseU64_digits _ _ _ (by rw [hv]; exact hn), hv]
  · intro h; simp_all
  · intro c hc
    rcases List.mem_append.mp hc with h | h
    · rw [List.eq_of_mem_replicate h]; rfl
    · exact Nat.isDigit_of_mem_toDigits (by decide) (by decide) h
end Run
