import Rbp.Model.Run
/-!
# What a run consults of the index values

`run` uses the key/value pairs of the index only through `decodeRec`: a value may be replaced by any other value that decodes to
the same record (block hash, prev-hash, height, status, file number, data offset) without changing anything a run does.  The
version of the node that wrote the record and its transaction count are decoded and dropped.
-/
namespace Run
open W

theorem insertSorted_map (g : Bytes × Bytes → Bytes × Bytes) (hg : ∀ p, (g p).1 = p.1) (kv : Bytes × Bytes) (l : List (Bytes × Bytes)) :
    insertSorted (g kv) (l.map g) = (insertSorted kv l).map g := by
  induction l with
  | nil => rfl
  | cons x xs ih =>
    simp only [List.map_cons, insertSorted, hg]
    split
    · simp
    · simp [ih]

theorem sortKvs_map (g : Bytes × Bytes → Bytes × Bytes) (hg : ∀ p, (g p).1 = p.1) (l : List (Bytes × Bytes)) :
    sortKvs (l.map g) = (sortKvs l).map g := by
  induction l with
  | nil => rfl
  | cons x xs ih =>
    simp only [sortKvs, List.map_cons, List.foldr_cons] at ih ⊢
    rw [ih, insertSorted_map g hg]

theorem collect_go_map (f : Bytes → Bytes → Bytes) (hf : ∀ k v, decodeRec k (f k v) = decodeRec k v)
    (l : List (Bytes × Bytes)) (acc : List Wk.Rec) :
    collect.go (l.map fun p => (p.1, f p.1 p.2)) acc = collect.go l acc := by
  induction l generalizing acc with
  | nil => rfl
  | cons x xs ih =>
    obtain ⟨_ | ⟨b, t⟩, v⟩ := x
    · rfl
    · simp only [List.map_cons, collect.go, hf, ih]

theorem collect_map (f : Bytes → Bytes → Bytes) (hf : ∀ k v, decodeRec k (f k v) = decodeRec k v) (kvs : List (Bytes × Bytes)) :
    collect (kvs.map fun p => (p.1, f p.1 p.2)) = collect kvs := by
  unfold collect
  rw [sortKvs_map (fun p => (p.1, f p.1 p.2)) (fun _ => rfl)]
  exact collect_go_map f hf _ _
end Run
