import Rbp.Proofs.Utf8Spec
/-!
# The lossy decoder: identity on well-formed UTF-8, and its output is always well-formed (C16, fork coins)

`lossy` makes the same case analysis as `valid`: it copies each well-formed sequence (`lossy_seq_append`) and replaces
each maximal ill-formed prefix by U+FFFD, which is itself a well-formed sequence (`seq_fffd`).
-/
namespace L

theorem lossy_seq_append {q : Bytes} (hq : Seq q) (r : Bytes) : lossy (q ++ r) = q ++ lossy r := by
  cases hq with
  | one h0 => rw [List.cons_append, lossy, if_pos ((lt80_nat _).mpr h0)]; rfl
  | two h0 h1 =>
    obtain ⟨h80, lo, hi, hs, hr⟩ := second_of_lead _ _ 2 (.inl ⟨rfl, h0, h1⟩)
    rw [List.cons_append, List.cons_append, lossy, if_neg h80, hs]
    simp [hr]
  | three h0 h2 =>
    obtain ⟨h80, lo, hi, hs, hr⟩ := second_of_lead _ _ 3 (.inr (.inl ⟨rfl, h0⟩))
    rw [List.cons_append, List.cons_append, List.cons_append, lossy, if_neg h80, hs]
    simp [hr, (isCont_nat _).mpr h2]
  | four h0 h2 h3 =>
    obtain ⟨h80, lo, hi, hs, hr⟩ := second_of_lead _ _ 4 (.inr (.inr ⟨rfl, h0⟩))
    rw [List.cons_append, List.cons_append, List.cons_append, List.cons_append, lossy, if_neg h80, hs]
    simp [hr, (isCont_nat _).mpr h2, (isCont_nat _).mpr h3]

theorem lossy_of_valid (p : Bytes) (h : valid p = true) : lossy p = p :=
  valid_induction (motive := fun p => lossy p = p) (by rw [lossy])
    (fun q r hq _ ih => by rw [lossy_seq_append hq, ih]) p h

theorem seq_fffd : Seq fffd := .three (by unfold P3; decide) (by unfold cont; decide)

theorem valid_lossy (p : Bytes) : valid (lossy p) = true := by
  fun_induction lossy p
  case case1 => exact valid_nil
  case case2 b0 rest h ih => exact (valid_seq_append (.one ((lt80_nat _).mp h)) _).trans ih
  case case6 b0 _ len lo hi hs b1 r hr hl ih => exact (valid_seq_append (seq_two hs hr hl) _).trans ih
  case case9 b0 _ len lo hi hs b1 hr hl2 b2 r h2 hl3 ih => exact (valid_seq_append (seq_three hs hr h2 hl3) _).trans ih
  case case12 b0 _ len lo hi hs b1 hr hl2 b2 h2 hl3 b3 r h3 ih =>
    exact (valid_seq_append (seq_four hs hr hl2 h2 hl3 h3) _).trans ih
  all_goals first | exact (valid_seq_append seq_fffd _).trans ‹_› | exact (valid_seq_append seq_fffd []).trans valid_nil

theorem lossy_valid : ∀ (n : Nat) (p : Bytes), p.length = n → valid (lossy p) = true :=
  fun _ p _ => valid_lossy p

theorem valid_ascii : ∀ p : Bytes, (∀ b ∈ p, b < 0x80) → valid p = true
  | [], _ => valid_nil
  | b :: p, h =>
    (valid_seq_append (.one ((lt80_nat b).mp (h b (by simp)))) p).trans (valid_ascii p fun x hx => h x (by simp [hx]))
end L
