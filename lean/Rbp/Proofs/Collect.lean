import Rbp.Proofs.Index
import Rbp.Proofs.Record
import Rbp.Proofs.Driver
/-!
# From the key/value pairs of the block index to the table of records (C04 ∘ C03)

`collect` sorts the pairs by key (LevelDB order), decodes every `b` record and keeps those that pass the status filter.
For an index whose `b` records are all decodable and whose keys are pairwise distinct, the resulting table contains exactly
the decoded passing records — in whatever order the keys happen to sort.
-/
namespace Run
open Wk

theorem collect_go_mem : ∀ (l : List (W.Bytes × W.Bytes)) (acc : List Rec),
    (∀ kv ∈ l, kv.1 ≠ [] ∧ (kv.1.head? = some 0x62 → ∃ x, decodeRec kv.1 kv.2 = .ok x ∧ x.hash = kv.1.drop 1)) →
    (l.map (·.1)).Nodup →
    (∀ a ∈ acc, ∀ kv ∈ l, kv.1 ≠ 0x62 :: a.hash) →
    ∃ recs, collect.go l acc = .ok recs ∧ ∀ x, x ∈ recs ↔ (x ∈ acc ∨ ∃ kv ∈ l, Yields kv x) := by
  intro l
  induction l with
  | nil => exact fun acc _ _ _ => ⟨acc, rfl, by simp⟩
  | cons kv l ih =>
    intro acc hwf hnd hacc
    have d := List.nodup_cons.mp hnd
    have hwf' := fun kv h => hwf kv (List.mem_cons_of_mem _ h)
    have hacc' : ∀ a ∈ acc, ∀ kv ∈ l, kv.1 ≠ 0x62 :: a.hash := fun a ha kv h => hacc a ha kv (List.mem_cons_of_mem _ h)
    obtain ⟨hne, hdec⟩ := hwf kv (List.mem_cons_self ..)
    rcases collect_go_cons kv l acc with ⟨x0, hy, hgo⟩ | ⟨hno, hgo⟩ | ⟨hbad, _⟩
    · -- the keys are distinct: no earlier record has this hash (nothing is replaced), no later key has it
      have hk : kv.1 = 0x62 :: x0.hash := by
        obtain ⟨x, hx, hh⟩ := hdec hy.1
        rw [← Res.ok.inj (hx.symm.trans hy.2.1), hh]
        exact (List.head?_eq_some_iff.mp hy.1).elim fun t e => by rw [e]; rfl
      have hfil : acc.filter (fun y => y.hash != x0.hash) = acc := List.filter_eq_self.mpr fun a ha => by
        have := hacc a ha kv (List.mem_cons_self ..)
        simpa [hk] using fun e : a.hash = x0.hash => this (e.symm ▸ hk)
      have hacc'' : ∀ a ∈ x0 :: acc, ∀ kv' ∈ l, kv'.1 ≠ 0x62 :: a.hash := fun a ha kv' h => by
        rcases List.mem_cons.mp ha with rfl | ha
        · exact fun e => d.1 (List.mem_map.mpr ⟨kv', h, e.trans hk.symm⟩)
        · exact hacc' a ha kv' h
      obtain ⟨recs, hr, hmem⟩ := ih (x0 :: acc) hwf' d.2 hacc''
      refine ⟨recs, by rw [hgo, hfil, hr], fun x => ?_⟩
      have : Yields kv x ↔ x = x0 := ⟨fun h => h.unique hy, fun e => e ▸ hy⟩
      simp only [hmem, List.mem_cons, exists_eq_or_imp, this, or_assoc, or_left_comm]
    · obtain ⟨recs, hr, hmem⟩ := ih acc hwf' d.2 hacc'
      exact ⟨recs, by rw [hgo, hr], fun x => by simp only [hmem, List.mem_cons, exists_eq_or_imp, hno, false_or]⟩
    · rcases hbad with e | ⟨hb, hno⟩
      · exact absurd e hne
      · exact (hdec hb).elim fun x hx => absurd hx.1 (hno x)

theorem collect_mem (kvs : List (W.Bytes × W.Bytes))
    (hwf : ∀ kv ∈ kvs, kv.1 ≠ [] ∧ (kv.1.head? = some 0x62 → ∃ x, decodeRec kv.1 kv.2 = .ok x ∧ x.hash = kv.1.drop 1))
    (hnd : (kvs.map (·.1)).Nodup) :
    ∃ recs, collect kvs = .ok recs ∧ ∀ x, x ∈ recs ↔ ∃ kv ∈ kvs, Yields kv x := by
  have hp := sortKvs_perm kvs
  obtain ⟨recs, hgo, hmem⟩ := collect_go_mem (sortKvs kvs) []
    (fun kv h => hwf kv (hp.mem_iff.mp h)) ((hp.map _).nodup_iff.mpr hnd) (by intro a ha; cases ha)
  exact ⟨recs, hgo, fun x => by simp only [hmem, List.not_mem_nil, false_or, hp.mem_iff]⟩

/-- **the index of a data directory whose block records describe an active chain.**  The key/value pairs may come in any
    order and contain anything else (other `b` records that decode, any records under other keys); if the keys are pairwise
    distinct, every `b` record is one Core could have written, and among them there is a chain `A 0 … A T` — record `k` at
    height `k`, with data and not failed, linked by prev-hash, the root's parent not indexed, the tip fully validated and every
    other fully validated record with data lower than `T` — then loading succeeds, the range ends at `min(--end, T)`, and
    every height `h ≤ T` maps to `A h`: its hash, its file number and its data offset. -/
theorem loadIndex_active (o : Opts) (kvs : List (W.Bytes × W.Bytes)) (hnd : (kvs.map (·.1)).Nodup)
    (hdec : ∀ kv ∈ kvs, kv.1 ≠ [] ∧ (kv.1.head? = some 0x62 →
      ∃ hash r, kv = (0x62 :: hash, IndexRec.enc r) ∧ hash.length = 32 ∧ r.ok))
    (A : Nat → W.Bytes × IndexRec) (T : Nat)
    (hAok : ∀ k, k ≤ T → (A k).1.length = 32 ∧ (A k).2.ok)
    (hmem : ∀ k, k ≤ T → (0x62 :: (A k).1, (A k).2.enc) ∈ kvs)
    (hh : ∀ k, k ≤ T → (A k).2.height = k)
    (hpass : ∀ k, k ≤ T → passes ((A k).2.toRec (A k).1) = true)
    (hlink : ∀ k, k < T → (A (k + 1)).2.prev = (A k).1)
    (hinj : ∀ i j, i ≤ T → j ≤ T → (A i).1 = (A j).1 → i = j)
    (hroot : ∀ kv ∈ kvs, kv.1 ≠ 0x62 :: (A 0).2.prev)
    (hv : validScripts ((A T).2.toRec (A T).1) = true)
    (hcomp : ∀ hash r, (0x62 :: hash, IndexRec.enc r) ∈ kvs → hash.length = 32 → r.ok → passes (r.toRec hash) = true →
      validScripts (r.toRec hash) = true → r.toRec hash = (A T).2.toRec (A T).1 ∨ r.height < T) :
    ∃ ld, loadIndex o kvs = .ok ld ∧
      ld.maxH = (match o.stop with | some e => min e T | none => T) ∧
      (∀ h, lookup ld.full h = if h ≤ T then some ((A h).2.toRec (A h).1) else none) ∧
      (∀ h, o.start - 1 ≤ h → h ≤ ld.maxH → lookup ld.trimmed h = if h ≤ T then some ((A h).2.toRec (A h).1) else none) := by
  have hwf : ∀ kv ∈ kvs, kv.1 ≠ [] ∧ (kv.1.head? = some 0x62 → ∃ x, decodeRec kv.1 kv.2 = .ok x ∧ x.hash = kv.1.drop 1) := by
    intro kv hkv
    refine ⟨(hdec kv hkv).1, fun hb => ?_⟩
    obtain ⟨hash, r, rfl, hl, hk⟩ := (hdec kv hkv).2 hb
    exact ⟨r.toRec hash, decodeRec_enc hash hl r hk, rfl⟩
  obtain ⟨recs, hcol, hrm⟩ := collect_mem kvs hwf hnd
  have hshape : ∀ x ∈ recs, ∃ hash r, (0x62 :: hash, IndexRec.enc r) ∈ kvs ∧ hash.length = 32 ∧ r.ok ∧ x = r.toRec hash ∧ passes x = true := by
    intro x hx
    obtain ⟨kv, hkv, hb, hd, hp⟩ := (hrm x).mp hx
    obtain ⟨hash, r, rfl, hl, hk⟩ := (hdec kv hkv).2 hb
    rw [decodeRec_enc hash hl r hk] at hd
    injection hd with hd
    exact ⟨hash, r, hkv, hl, hk, hd.symm, hp⟩
  let A' : Nat → Rec := fun k => (A k).2.toRec (A k).1
  have hA'mem : ∀ k, k ≤ T → A' k ∈ recs := by
    intro k hk
    exact (hrm _).mpr ⟨_, hmem k hk, by simp, decodeRec_enc _ (hAok k hk).1 _ (hAok k hk).2, hpass k hk⟩
  have hchain : Chain A' T recs := by
    refine ⟨hA'mem, fun k hk => hlink k hk, fun i j hi hj he => hinj i j hi hj he, ?_⟩
    intro hin
    obtain ⟨x, hx, hxe⟩ := List.mem_map.mp hin
    obtain ⟨hash, r, hkv, _, _, rfl, _⟩ := hshape x hx
    exact hroot _ hkv (by simp only [A', IndexRec.toRec] at hxe ⊢; rw [hxe])
  have hcomp' : ∀ r ∈ recs, validScripts r = true → r = A' T ∨ r.height < T := by
    intro x hx hvx
    obtain ⟨hash, r, hkv, hl, hok, rfl, hp⟩ := hshape x hx
    exact hcomp hash r hkv hl hok hp hvx
  have hbi := buildIndex_chain kvs recs A' T hcol hchain (fun k hk => hh k hk) hv hcomp'
  -- the index is the list `[(0, A' 0), …, (T, A' T)]`: not empty, highest key `T`
  have hload : ∃ ld, loadIndex o kvs = .ok ld ∧ ld.full = (List.range (T + 1)).map fun k => (k, A' k) := by
    unfold loadIndex
    rw [hbi, List.range_succ_eq_map]
    exact ⟨_, rfl, rfl⟩
  obtain ⟨ld, hld, hfull⟩ := hload
  have hlk : ∀ h, lookup ld.full h = if h ≤ T then some (A' h) else none := fun h => by
    rw [hfull, lookup_range_map]; simp only [Nat.lt_succ_iff]
  have hm := (loadIndex_ok hld).2.2.1
  rw [hfull, foldl_max_range_map] at hm
  exact ⟨ld, hld, hm, hlk, fun h h1 h2 => (loadIndex_trimmed hld h h1 h2).trans (hlk h)⟩
end Run
