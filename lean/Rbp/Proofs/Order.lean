/-!
# Bool-valued strict orders on lists: sorted arrangements are unique, a running maximum is a maximum

Two places of the model compare with a hand-written `lt : α → α → Bool`: the key order of the index (`lexLt` on the keys of
the pairs) and the choice of the tip (`tipLt`).  Both are strict orders that are total *up to a key* (the LevelDB key, the block
hash), and both are used on lists whose keys are pairwise distinct.  What follows from that is proved here once, for any `lt`.
-/
namespace Order

theorem eq_of_key_eq {α κ : Type} (k : α → κ) (l : List α) (hd : (l.map k).Nodup) :
    ∀ a ∈ l, ∀ b ∈ l, k a = k b → a = b :=
  have h := List.pairwise_map.mp hd
  fun _ ha _ hb => List.Pairwise.forall_of_forall_of_flip (R := fun x y => k x = k y → x = y) (fun _ _ _ => rfl)
    (h.imp fun hne e => absurd e hne) (h.imp fun hne e => absurd e.symm hne) ha hb

structure StrictTotalOn {α κ : Type} (lt : α → α → Bool) (k : α → κ) : Prop where
  irrefl : ∀ a, lt a a = false
  trans : ∀ a b c, lt a b = true → lt b c = true → lt a c = true
  total : ∀ a b, lt a b = false → lt b a = false → k a = k b

section
variable {α κ : Type} {lt : α → α → Bool} {k : α → κ}

theorem StrictTotalOn.asymm (h : StrictTotalOn lt k) (a b : α) (hab : lt a b = true) : lt b a = false :=
  Bool.eq_false_iff.mpr fun hba => Bool.eq_false_iff.mp (h.irrefl a) (h.trans a b a hab hba)

theorem StrictTotalOn.eq_of_not_lt (h : StrictTotalOn lt k) {l : List α} (hd : (l.map k).Nodup) {a b : α} (ha : a ∈ l)
    (hb : b ∈ l) (h1 : lt a b = false) (h2 : lt b a = false) : a = b :=
  eq_of_key_eq k l hd a ha b hb (h.total a b h1 h2)

theorem StrictTotalOn.sorted_unique (h : StrictTotalOn lt k) {l₁ l₂ : List α} (hp : l₁.Perm l₂) (hd : (l₁.map k).Nodup)
    (s₁ : l₁.Pairwise (fun x y => lt y x = false)) (s₂ : l₂.Pairwise (fun x y => lt y x = false)) : l₁ = l₂ := by
  induction l₁ generalizing l₂ with
  | nil => exact hp.nil_eq
  | cons x xs ih =>
    cases l₂ with
    | nil => exact (hp.symm.nil_eq).symm
    | cons y ys =>
      have p₁ := List.pairwise_cons.mp s₁
      have p₂ := List.pairwise_cons.mp s₂
      have hy : y ∈ x :: xs := hp.mem_iff.mpr (List.mem_cons_self ..)
      have hx : x ∈ y :: ys := hp.mem_iff.mp (List.mem_cons_self ..)
      -- the heads are equal: each is a least element of the same set
      have exy : x = y :=
        (List.mem_cons.mp hy).elim Eq.symm fun hy' => (List.mem_cons.mp hx).elim id fun hx' =>
          h.eq_of_not_lt hd (List.mem_cons_self ..) hy (p₂.1 x hx') (p₁.1 y hy')
      subst exy
      rw [ih (List.Perm.cons_inv hp) (List.nodup_cons.mp hd).2 p₁.2 p₂.2]

variable (lt) in
def IsMax (m : List α) : Option α → Prop
  | none => ∀ r, r ∉ m
  | some t => t ∈ m ∧ ∀ r ∈ m, lt t r = false

theorem isMax_congr {m m' : List α} (h : ∀ x, x ∈ m ↔ x ∈ m') (o : Option α) : IsMax lt m o ↔ IsMax lt m' o := by
  cases o <;> simp [IsMax, h]

theorem IsMax.start (irr : ∀ a, lt a a = false) : ∀ best : Option α, IsMax lt best.toList best
  | none => by simp [IsMax]
  | some b => by simp [IsMax, irr]

/-- the step function is given by its two equations, so that any spelling of it in the model fits by `rfl` -/
theorem isMax_foldl {f : Option α → α → Option α} (hn : ∀ r, f none r = some r)
    (hs : ∀ b r, f (some b) r = if lt b r then some r else some b)
    (irr : ∀ a, lt a a = false) (tr : ∀ a b c, lt a b = true → lt b c = true → lt a c = true) :
    ∀ (l seen : List α) (best : Option α), IsMax lt seen best → IsMax lt (seen ++ l) (l.foldl f best) := by
  intro l
  induction l with
  | nil => intro seen best h; rwa [List.append_nil]
  | cons x xs ih =>
    intro seen best h
    rw [List.append_cons, List.foldl_cons]
    refine ih _ _ ?_
    have hx : x ∈ seen ++ [x] := List.mem_append_right _ (List.mem_singleton_self x)
    cases best with
    | none =>
      rw [hn]
      exact ⟨hx, fun r hr => (List.mem_append.mp hr).elim (fun hr => (h r hr).elim) fun hr => List.mem_singleton.mp hr ▸ irr x⟩
    | some b =>
      rw [hs]
      cases c : lt b x with
      | false =>
        exact ⟨List.mem_append_left _ h.1, fun r hr => (List.mem_append.mp hr).elim (h.2 r) fun hr => List.mem_singleton.mp hr ▸ c⟩
      | true =>
        -- anything above the new best `x` would be above the old best `b`
        exact ⟨hx, fun r hr => (List.mem_append.mp hr).elim
          (fun hr => Bool.eq_false_iff.mpr fun hxr => Bool.eq_false_iff.mp (h.2 r hr) (tr b x r c hxr))
          fun hr => List.mem_singleton.mp hr ▸ irr x⟩

theorem IsMax.eq_some_of_greatest {m : List α} {o : Option α} {t : α} (h : IsMax lt m o) (hm : t ∈ m)
    (hall : ∀ r ∈ m, r = t ∨ lt r t = true) : o = some t := by
  cases o with
  | none => exact (h t hm).elim
  | some t' =>
    rcases hall t' h.1 with e | e
    · rw [e]
    · rw [h.2 t hm] at e; cases e

theorem IsMax.unique {m : List α} {o₁ o₂ : Option α}
    (tot : ∀ a ∈ m, ∀ b ∈ m, lt a b = false → lt b a = false → a = b) (h₁ : IsMax lt m o₁) (h₂ : IsMax lt m o₂) : o₁ = o₂ := by
  cases o₁ with
  | none => cases o₂ with
    | none => rfl
    | some t₂ => exact (h₁ t₂ h₂.1).elim
  | some t₁ => cases o₂ with
    | none => exact (h₂ t₁ h₁.1).elim
    | some t₂ => rw [tot t₁ h₁.1 t₂ h₂.1 (h₁.2 t₂ h₂.1) (h₂.2 t₁ h₁.1)]

theorem isMax_filter (p : α → Bool) (l : List α) (o : Option α) :
    IsMax lt (l.filter p) o ↔
      (∀ t, o = some t → t ∈ l ∧ p t = true ∧ ∀ r ∈ l, p r = true → lt t r = false) ∧
      (o = none → ∀ r ∈ l, p r = false) := by
  cases o <;> simp [IsMax, List.mem_filter, and_assoc]
end
end Order
