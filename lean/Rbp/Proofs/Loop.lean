import Rbp.Model.Run
/-!
# The driver loop and `run`, characterised once

One pass of the loop body at height `h` does two independent things: it decides what the callback gets (`serve`: the block,
or the way the loop ends there) and it updates the reader bookkeeping (`book`: open list and Opening/Closing trace).
`serve` does not look at the bookkeeping and `book` does not look at `--verify`.  What reaches the callback is then
`scan serve`, a loop with two cases, and `run` is `report` of the scan: every whole-run statement is a statement about `scan`,
`serve` or `book`.
-/
namespace Run
open Wk CB

/-- the blk files of a directory by their number (`BlkFile::from_path` over the directory listing): the table `run` looks files up in -/
abbrev blkTable (files : List BlkFile) : List (Nat × BlkFile) := files.filterMap fun f => (parseBlkIndex f.name).map fun n => (n, f)

def fileOf (fm : List (Nat × BlkFile)) (n : Nat) : Option BlkFile := (fm.find? (·.1 == n)).map (·.2)

/-- what `get_block` obtains for a record: `none` when no blk file carries the record's number -/
def fetch (coin : Coin) (key : Option W.Bytes) (fm : List (Nat × BlkFile)) (r : Rec) : Option (Res (Nat × Csv.RBlock)) :=
  (fileOf fm r.file).map fun f => readAt coin key f r.off

section loop
variable (coin : Coin) (o : Opts) (key : Option W.Bytes) (fm : List (Nat × BlkFile)) (full tr : List (Nat × Rec))

/-- the block handed to the callback at height `h`, or the way the loop ends there (`.complete` at a gap of the index) -/
def serve (h : Nat) : Except End EBlock :=
  match (lookup tr h).map (fetch coin key fm) with
  | none => .error .complete
  | some none => .error (.errorAt h "Block file for block not found")
  | some (some (.err m)) => .error (.errorAt h m)
  | some (some (.panic m)) => .error (.panicAt h m)
  | some (some (.ok (size, b))) =>
    match (if o.verify then verifyBlock coin tr b h else .ok ()) with
    | .err m => .error (.errorAt h m)
    | .panic m => .error (.panicAt h m)
    | .ok () => .ok ⟨h, size, b⟩

/-- open list and trace after the pass at height `h`: the file is opened once it is found and closed, if `h` is its last
    height, once the block is read — whatever `--verify` then says.  The `if`s are those of `driveLoop`, term for term, so that
    `driveLoop_succ` holds by `rfl` in every case -/
def book (h : Nat) (s : List Nat × List Ev) : List Nat × List Ev :=
  match lookup tr h with
  | none => s
  | some r =>
    match fetch coin key fm r with
    | none => s
    | some x =>
      let evs := if s.1.contains r.file then s.2 else Ev.opening r.file :: s.2
      let opened := if s.1.contains r.file then s.1 else r.file :: s.1
      match x with
      | .ok _ =>
        let close : Bool := match maxHeightByBlk full r.file with | some m => decide (h ≥ m) | none => false
        (if close then opened.filter (· ≠ r.file) else opened, if close then Ev.closing r.file :: evs else evs)
      | _ => (opened, evs)

variable {coin o key fm full tr}

theorem driveLoop_succ (h n : Nat) (O : List Nat) (acc : List EBlock) (E : List Ev) :
    driveLoop coin o key fm full tr h (n + 1) O acc E =
      match serve coin o key fm tr h with
      | .error e => ⟨acc.reverse, (book coin key fm full tr h (O, E)).2.reverse, e, (book coin key fm full tr h (O, E)).1⟩
      | .ok b => driveLoop coin o key fm full tr (h + 1) n (book coin key fm full tr h (O, E)).1 (b :: acc)
          (book coin key fm full tr h (O, E)).2 := by
  rw [driveLoop]
  unfold serve book fetch fileOf
  cases lookup tr h with
  | none => rfl
  | some r =>
    dsimp only [Option.map_some]
    cases (fm.find? (·.1 == r.file)).map (·.2) with
    | none => rfl
    | some f =>
      dsimp only [Option.map_some]
      cases readAt coin key f r.off with
      | err m => rfl
      | panic m => rfl
      | ok p =>
        dsimp only
        cases (if o.verify = true then verifyBlock coin tr p.2 h else Res.ok ()) <;> rfl

/-- the loop as the callback sees it -/
def scan (sv : Nat → Except End EBlock) : Nat → Nat → List EBlock × End
  | _, 0 => ([], .complete)
  | h, n + 1 =>
    match sv h with
    | .error e => ([], e)
    | .ok b => (b :: (scan sv (h + 1) n).1, (scan sv (h + 1) n).2)

theorem driveLoop_scan : ∀ (n h : Nat) (O : List Nat) (acc : List EBlock) (E : List Ev),
    (driveLoop coin o key fm full tr h n O acc E).blocks = acc.reverse ++ (scan (serve coin o key fm tr) h n).1 ∧
    (driveLoop coin o key fm full tr h n O acc E).ending = (scan (serve coin o key fm tr) h n).2
  | 0, _, _, _, _ => by simp [driveLoop, scan]
  | n + 1, h, O, acc, E => by
    rw [driveLoop_succ, scan]
    cases serve coin o key fm tr h with
    | error e => simp
    | ok b => simpa using driveLoop_scan n (h + 1) _ (b :: acc) _

theorem driveLoop_blocks_eq (h n : Nat) (O : List Nat) (E : List Ev) :
    (driveLoop coin o key fm full tr h n O [] E).blocks = (scan (serve coin o key fm tr) h n).1 :=
  (driveLoop_scan n h O [] E).1

theorem serve_ok {h : Nat} {r : Rec} {f : BlkFile} {sz : Nat} {b : Csv.RBlock} (hl : lookup tr h = some r)
    (hf : (fm.find? (·.1 == r.file)).map (·.2) = some f) (hr : readAt coin key f r.off = .ok (sz, b))
    (hv : o.verify = true → verifyBlock coin tr b h = .ok ()) : serve coin o key fm tr h = .ok ⟨h, sz, b⟩ := by
  have hvv : (if o.verify = true then verifyBlock coin tr b h else Res.ok ()) = Res.ok () := by
    split
    · exact hv ‹_›
    · rfl
  simp only [serve, fetch, fileOf, hl, hf, hr, Option.map_some, hvv]

theorem serve_inv {h : Nat} {b : EBlock} (hs : serve coin o key fm tr h = .ok b) :
    b.height = h ∧ (o.verify = true → verifyBlock coin tr b.blk h = .ok ()) := by
  unfold serve at hs
  split at hs
  iterate 4 cases hs
  split at hs
  · cases hs
  · cases hs
  · next heq =>
    cases hs
    exact ⟨rfl, fun hv => by rwa [if_pos hv] at heq⟩

end loop

section scan
variable (sv : Nat → Except End EBlock)

/-- the blocks are given through a projection `g` of them: `id` when they are known, `(·.height)` when only that they exist -/
theorem scan_ok {β} (g : EBlock → β) (f : Nat → β) (m : Nat) : ∀ (k h : Nat),
    (∀ j, h ≤ j → j < h + k → ∃ b, sv j = .ok b ∧ g b = f j) →
    ∃ bs, bs.map g = (List.range' h k).map f ∧
      scan sv h (k + m) = (bs ++ (scan sv (h + k) m).1, (scan sv (h + k) m).2)
  | 0, h, _ => ⟨[], rfl, by simp⟩
  | k + 1, h, hok => by
    obtain ⟨b, hb, hg⟩ := hok h (Nat.le_refl _) (by omega)
    obtain ⟨bs, hbs, hsc⟩ := scan_ok g f m k (h + 1) fun j h1 h2 => hok j (by omega) (by omega)
    refine ⟨b :: bs, by simp [List.range'_succ, hg, hbs], ?_⟩
    rw [show k + 1 + m = k + m + 1 by omega, scan, hb, hsc, show h + 1 + k = h + (k + 1) by omega]
    rfl

theorem scan_all {β} (g : EBlock → β) (f : Nat → β) (k h : Nat)
    (hok : ∀ j, h ≤ j → j < h + k → ∃ b, sv j = .ok b ∧ g b = f j) :
    ∃ bs, bs.map g = (List.range' h k).map f ∧ scan sv h k = (bs, .complete) := by
  obtain ⟨bs, hbs, hsc⟩ := scan_ok sv g f 0 k h hok
  exact ⟨bs, hbs, by simpa [scan] using hsc⟩

theorem scan_stop {β} (g : EBlock → β) (f : Nat → β) {h k n : Nat} {e : End} (hk : h ≤ k) (hn : k < h + n)
    (hok : ∀ j, h ≤ j → j < k → ∃ b, sv j = .ok b ∧ g b = f j) (he : sv k = .error e) :
    ∃ bs, bs.map g = (List.range' h (k - h)).map f ∧ scan sv h n = (bs, e) := by
  obtain ⟨d, rfl⟩ := Nat.exists_eq_add_of_le hk
  obtain ⟨m, rfl⟩ := Nat.exists_eq_add_of_lt (Nat.lt_of_add_lt_add_left hn)
  obtain ⟨bs, hbs, hsc⟩ := scan_ok sv g f (m + 1) d h hok
  exact ⟨bs, by rw [Nat.add_sub_cancel_left, hbs], by rw [Nat.add_assoc, hsc, scan, he, List.append_nil]⟩

theorem scan_heights (hh : ∀ j b, sv j = .ok b → b.height = j) : ∀ (n h : Nat),
    ∃ k, k ≤ n ∧ (scan sv h n).1.map (·.height) = List.range' h k
  | 0, _ => ⟨0, Nat.le_refl _, rfl⟩
  | n + 1, h => by
    rw [scan]
    cases hs : sv h with
    | error e => exact ⟨0, Nat.zero_le _, rfl⟩
    | ok b =>
      obtain ⟨k, hk, e⟩ := scan_heights hh n (h + 1)
      exact ⟨k + 1, by omega, by simp [List.range'_succ, e, hh h b hs]⟩

theorem scan_mem : ∀ (n h : Nat) (b : EBlock), b ∈ (scan sv h n).1 → ∃ j, sv j = .ok b
  | 0, _, _, hb => by simp [scan] at hb
  | n + 1, h, b, hb => by
    rw [scan] at hb
    cases hs : sv h with
    | error e => simp [hs] at hb
    | ok b' =>
      simp only [hs, List.mem_cons] at hb
      rcases hb with rfl | hb
      · exact ⟨h, hs⟩
      · exact scan_mem n (h + 1) b hb

end scan

/-- the part of `run` behind the loop, for blocks `r.1`, ending `r.2` and trace `evs` -/
def report (o : Opts) (ver : UInt8) (r : List EBlock × End) (evs : List Ev) : Output :=
  let heights := r.1.map (·.height)
  let hashes := r.1.map (fun b => blockHash b.blk)
  match r.2 with
  | .errorAt h m => ⟨1, some h, m, heights, hashes, [], [], evs⟩
  | .panicAt h m => ⟨101, some h, m, heights, hashes, [], [], evs⟩
  | .complete =>
    if callbackPanics o ver r.1 then ⟨101, none, "panic in callback", heights, hashes, [], [], evs⟩ else
    let last := (o.start + r.1.length) - 1
    let (fs, out) := callbackOut o ver last r.1
    ⟨0, none, "", heights, hashes, fs, out, evs⟩

theorem report_delivered (o : Opts) (ver : UInt8) (r : List EBlock × End) (evs : List Ev) :
    (report o ver r evs).delivered = r.1.map (·.height) := by
  unfold report
  split
  · rfl
  · rfl
  · split <;> rfl

theorem report_out (o : Opts) (ver : UInt8) (r : List EBlock × End) (evs : List Ev) :
    ((report o ver r evs).exit ≠ 0 ∧ (report o ver r evs).files = []) ∨
    ((report o ver r evs).exit = 0 ∧
      (report o ver r evs).files = (callbackOut o ver (o.start + r.1.length - 1) r.1).1 ∧
      (report o ver r evs).stdout = (callbackOut o ver (o.start + r.1.length - 1) r.1).2) := by
  unfold report
  split
  · exact .inl ⟨Nat.succ_ne_zero _, rfl⟩
  · exact .inl ⟨Nat.succ_ne_zero _, rfl⟩
  · split
    · exact .inl ⟨Nat.succ_ne_zero _, rfl⟩
    · exact .inr ⟨rfl, rfl, rfl⟩

section run
variable {o : Opts} {key : Option W.Bytes} {kvs : List (W.Bytes × W.Bytes)} {files : List BlkFile} {coin : Coin} {ld : Loaded}

theorem run_eq_report (hcoin : coinOf o.coin = some coin) (hld : loadIndex o kvs = .ok ld)
    (hfm : blkTable files ≠ []) (hkey : key ≠ some []) :
    run o key kvs files =
      report o coin.version (scan (serve coin o key (blkTable files) ld.trimmed) o.start (ld.maxH + 1 - o.start))
        (driveLoop coin o key (blkTable files) ld.full ld.trimmed o.start (ld.maxH + 1 - o.start) [] [] []).events := by
  unfold run
  simp only [hcoin, hld, List.isEmpty_iff, hfm, if_false]
  rw [(driveLoop_scan ..).2, driveLoop_blocks_eq]
  rcases key with _ | _ | _
  · rfl
  · exact absurd rfl hkey
  · rfl

variable (o key kvs files) in
theorem run_cases :
    (∃ c m, c ≠ 0 ∧ run o key kvs files = ⟨c, none, m, [], [], [], [], []⟩) ∨
    ∃ coin ld evs, coinOf o.coin = some coin ∧ loadIndex o kvs = .ok ld ∧
      run o key kvs files =
        report o coin.version (scan (serve coin o key (blkTable files) ld.trimmed) o.start (ld.maxH + 1 - o.start)) evs := by
  cases hc : coinOf o.coin with
  | none => exact .inl ⟨2, "unknown coin", by decide, by simp only [run, hc]⟩
  | some coin =>
    cases hl : loadIndex o kvs with
    | err m => exact .inl ⟨1, m, by decide, by simp only [run, hc, hl]⟩
    | panic m => exact .inl ⟨101, m, by decide, by simp only [run, hc, hl]⟩
    | ok ld =>
      by_cases hfm : blkTable files = []
      · exact .inl ⟨1, "No blk files found!", by decide, by simp only [run, hc, hl, hfm, List.isEmpty_nil, if_true]⟩
      · by_cases hkey : key = some []
        · exact .inl ⟨101, "attempt to calculate the remainder with a divisor of zero", by decide,
            by simp only [run, hc, hl, hfm, List.isEmpty_iff, if_false, hkey]⟩
        · exact .inr ⟨coin, ld, _, rfl, rfl, run_eq_report hc hl hfm hkey⟩

theorem deliveredBlocks_eq (hcoin : coinOf o.coin = some coin) (hld : loadIndex o kvs = .ok ld) :
    deliveredBlocks o key kvs files =
      (scan (serve coin o key (blkTable files) ld.trimmed) o.start (ld.maxH + 1 - o.start)).1 := by
  simp only [deliveredBlocks, hcoin, hld, driveLoop_blocks_eq]

end run
end Run
