import Rbp.Model.ScriptMachine
import Rbp.Proofs.Tokens
/-! The index machine of `custom.rs` never reaches a panic site and computes `S.evalCustom` (C14, C06). -/
namespace SM
open S
open T (Form)

/-- the continuation of `tokens` (its local `fin`) once the push length `n` and the number `k` of length bytes are known -/
def finR (b : UInt8) (rest : Bytes) (k n : Nat) : Option (List El) :=
  if n > 0 then
    if n ≤ (rest.drop k).length then
      (tokens ((rest.drop k).drop n)).map (El.data ((rest.drop k).take n) :: ·)
    else none
  else if classify b = .noop then tokens (rest.drop k)
  else (tokens (rest.drop k)).map (El.op b :: ·)

/-- result the loop must produce from a position where the structural tokeniser gives `t` -/
def expect (acc : List El) (t : Option (List El)) : Out (List El) :=
  match t with
  | some t => .ok (acc.reverse ++ t)
  | none => .eof

theorem expect_map (acc : List El) (e : El) (t : Option (List El)) :
    expect (e :: acc) t = expect acc (t.map (e :: ·)) := by
  cases t <;> simp [expect]

theorem slice_add (bytes : Bytes) (i n : Nat) (h : i + n ≤ bytes.length) :
    slice bytes i (i + n) = .ok ((bytes.drop i).take n) := by
  rw [slice, if_pos ⟨Nat.le_add_right i n, h⟩, Nat.add_sub_cancel_left]

/-- the part of one loop iteration after `maybe_push_data` returned `(n, ip + k)` -/
theorem tail_eq (bytes : Bytes) (fuel ip k n : Nat) (acc : List El) (b : UInt8)
    (hk : ip + 1 + k ≤ bytes.length) (hn : n < 2^32) (hlen : bytes.length < 2^63)
    (ih : ∀ ip' acc', ip < ip' → ip' ≤ bytes.length → loop bytes fuel ip' acc' = expect acc' (tokens (bytes.drop ip'))) :
    (if ip + k + 1 + n ≥ 2^64 then Out.panic
     else if n > 0 then
       if ip + k + 1 + n > bytes.length then Out.eof
       else match slice bytes (ip + k + 1) (ip + k + 1 + n) with
         | .ok d => loop bytes fuel (ip + k + 1 + n) (El.data d :: acc)
         | .eof => .eof
         | .panic => .panic
     else if classify b ≠ .noop then loop bytes fuel (ip + k + 1) (El.op b :: acc)
     else loop bytes fuel (ip + k + 1) acc) = expect acc (finR b (bytes.drop (ip + 1)) k n) := by
  have hd : (bytes.drop (ip + 1)).drop k = bytes.drop (ip + k + 1) := by rw [List.drop_drop, Nat.add_right_comm]
  rw [if_neg (by omega), finR, hd, List.length_drop, List.drop_drop]
  split
  · by_cases hfit : n ≤ bytes.length - (ip + k + 1)
    · rw [if_neg (by omega), if_pos hfit, slice_add _ _ _ (by omega), ← expect_map]
      exact ih _ _ (by omega) (by omega)
    · rw [if_pos (by omega), if_neg hfit]; rfl
  · by_cases hnoop : classify b = .noop
    · rw [if_neg (not_not_intro hnoop), if_pos hnoop]
      exact ih _ _ (by omega) (by omega)
    · rw [if_pos hnoop, if_neg hnoop, ← expect_map]
      exact ih _ _ (by omega) (by omega)

theorem pushDataK_eq (bytes : Bytes) (ip k : Nat) (hip : ip < bytes.length) :
    pushDataK bytes ip k =
      if k ≤ (bytes.drop (ip + 1)).length then .ok (leN ((bytes.drop (ip + 1)).take k), ip + k) else .eof := by
  simp only [pushDataK, sliceFrom, if_pos (show ip + 1 ≤ bytes.length from hip), readUint, List.length_drop]
  by_cases h : k ≤ bytes.length - (ip + 1)
  · rw [if_neg (by omega), if_neg (by omega), if_pos h]
  · rw [if_pos (by omega), if_neg h]

theorem maybePushData_op (bytes : Bytes) (ip : Nat) (b : UInt8) (h : b.toNat = 0 ∨ 0x4e < b.toNat) :
    maybePushData bytes ip b = .ok (0, ip) := by
  rcases h with h | h
  · simp only [maybePushData, classify_le b (by omega), h]
  · have hc := classify_gt b (by omega)
    obtain ⟨h1, h2, h3⟩ := ne_pd b h
    simp only [maybePushData, if_neg h1, if_neg h2, if_neg h3]

theorem maybePushData_direct (bytes : Bytes) (ip : Nat) (b : UInt8) (h : b.toNat ≤ 75) :
    maybePushData bytes ip b = .ok (b.toNat, ip) := by
  simp only [maybePushData, classify_le b h]

theorem maybePushData_pd (bytes : Bytes) (ip : Nat) (f : Form) (hf : f ≠ .direct) :
    maybePushData bytes ip f.opcode = pushDataK bytes ip f.width := by
  cases f with
  | direct => exact absurd rfl hf
  | pd1 => simp [maybePushData, Form.opcode, Form.width, show classify 0x4c = .ordinary by decide]
  | pd2 => simp [maybePushData, Form.opcode, Form.width, show classify 0x4d = .ordinary by decide]
  | pd4 => simp [maybePushData, Form.opcode, Form.width, show classify 0x4e = .ordinary by decide]

/-- `maybe_push_data` at `ip` and `tokens` on the script from `ip` read the same push header -/
theorem header (bytes : Bytes) (ip : Nat) (b : UInt8) (hip : ip < bytes.length) :
    (maybePushData bytes ip b = .eof ∧ tokens (b :: bytes.drop (ip + 1)) = none) ∨
    ∃ k n, maybePushData bytes ip b = .ok (n, ip + k) ∧ ip + 1 + k ≤ bytes.length ∧ n < 2^32 ∧
      tokens (b :: bytes.drop (ip + 1)) = finR b (bytes.drop (ip + 1)) k n := by
  have hl : (bytes.drop (ip + 1)).length = bytes.length - (ip + 1) := List.length_drop
  rcases kind_cases b with h | ⟨h1, h2⟩ | ⟨f, hf, rfl⟩
  · exact .inr ⟨0, 0, maybePushData_op _ _ _ h, by omega, by decide, by rw [tokens_op b _ h]; simp [finR]⟩
  · exact .inr ⟨0, b.toNat, maybePushData_direct _ _ _ h2, by omega, by omega,
      by rw [tokens_direct b _ h1 h2]; simp [finR, show 0 < b.toNat from h1]⟩
  · rw [maybePushData_pd _ _ _ hf, pushDataK_eq bytes ip _ hip, tokens_pd f hf]
    by_cases hk : f.width ≤ (bytes.drop (ip + 1)).length
    · have hn : leN ((bytes.drop (ip + 1)).take f.width) < 256 ^ 4 :=
        Nat.lt_of_lt_of_le (T.le_lt _) (Nat.pow_le_pow_right (by decide)
          (Nat.le_trans (List.length_take_le ..) (by cases f <;> decide)))
      have hc : classify f.opcode ≠ .noop := by cases f <;> first | exact absurd rfl hf | decide
      exact .inr ⟨f.width, _, if_pos hk, by omega, hn, by rw [if_pos hk]; simp [finR, hc, Nat.pos_iff_ne_zero]⟩
    · exact .inl ⟨if_neg hk, if_neg hk⟩

theorem loop_eq (bytes : Bytes) (hlen : bytes.length < 2^63) : ∀ (fuel ip : Nat) (acc : List El),
    ip ≤ bytes.length → bytes.length - ip < fuel →
    loop bytes fuel ip acc = expect acc (tokens (bytes.drop ip)) := by
  intro fuel
  induction fuel with
  | zero => intro ip acc _ h; omega
  | succ fuel ih =>
    intro ip acc hle hfuel
    rw [loop]
    by_cases hip : ip < bytes.length
    · rw [if_pos hip, List.getElem?_eq_getElem hip, List.drop_eq_getElem_cons hip]
      rcases header bytes ip bytes[ip] hip with ⟨hm, ht⟩ | ⟨k, n, hm, hk, hn, ht⟩
      · rw [ht]; simp only [hm]; rfl
      · rw [ht]; simp only [hm]
        exact tail_eq bytes fuel ip k n acc _ hk hn hlen fun ip' acc' h1 h2 => ih ip' acc' h2 (by omega)
    · rw [if_neg hip, List.drop_eq_nil_of_le (by omega), tokens_nil]; simp [expect]

/-- structural reading of `match_stack_pattern` -/
def allMatch : List El → List El → Bool
  | [], [] => true
  | a :: as, b :: bs => elMatches a b && allMatch as bs
  | _, _ => false

theorem go_eq (els pat : List El) (hl : els.length = pat.length) : ∀ (n i : Nat), i + n = pat.length →
    matchPattern.go els pat i n = .ok (allMatch (els.drop i) (pat.drop i))
  | 0, i, h => by
    rw [matchPattern.go, List.drop_eq_nil_of_le (by omega), List.drop_eq_nil_of_le (by omega), allMatch]
  | n+1, i, h => by
    have hi1 : i < els.length := by omega
    have hi2 : i < pat.length := by omega
    rw [matchPattern.go, List.drop_eq_getElem_cons hi1, List.drop_eq_getElem_cons hi2, allMatch]
    simp only [idx, List.getElem?_eq_getElem hi1, List.getElem?_eq_getElem hi2]
    cases elMatches els[i] pat[i]
    · rfl
    · exact go_eq els pat hl n (i + 1) (by omega)

theorem allMatch_length : ∀ {els pat : List El}, allMatch els pat = true → els.length = pat.length
  | [], [], _ => rfl
  | _ :: as, _ :: bs, h => by
    simp only [allMatch, Bool.and_eq_true] at h
    simp [allMatch_length h.2]

/-- `match_stack_pattern` never indexes out of bounds and is the structural comparison -/
theorem matchPattern_eq (els pat : List El) : matchPattern els pat = .ok (allMatch els pat) := by
  unfold matchPattern
  by_cases h : els.length = pat.length
  · rw [if_neg (not_not_intro h)]
    exact go_eq els pat h pat.length 0 (Nat.zero_add _)
  · rw [if_pos h, Bool.eq_false_iff.mpr fun hm => h (allMatch_length hm)]

theorem elMatches_op (e : El) (c : UInt8) : elMatches e (.op c) = true ↔ e = .op c := by
  cases e <;> simp [elMatches]
theorem elMatches_D (e : El) : elMatches e D = true ↔ ∃ d, e = .data d := by
  cases e <;> simp [elMatches, D]

theorem allMatch_P1 {els : List El} (h : allMatch els [.op 0x76, .op 0xa9, D, .op 0x88, .op 0xac] = true) :
    ∃ h, els = [.op 0x76, .op 0xa9, .data h, .op 0x88, .op 0xac] := by
  rcases els with _ | ⟨a, _ | ⟨b, _ | ⟨c, _ | ⟨d, _ | ⟨e, _ | ⟨f, rest⟩⟩⟩⟩⟩⟩ <;>
    simp_all [allMatch, elMatches_op, elMatches_D]
theorem allMatch_P2 {els : List El} (h : allMatch els [D, .op 0xac] = true) : ∃ k, els = [.data k, .op 0xac] := by
  rcases els with _ | ⟨a, _ | ⟨b, _ | ⟨c, rest⟩⟩⟩ <;> simp_all [allMatch, elMatches_op, elMatches_D]
theorem allMatch_P3 {els : List El} (h : allMatch els [.op 0xa9, D, .op 0x87] = true) : ∃ h, els = [.op 0xa9, .data h, .op 0x87] := by
  rcases els with _ | ⟨a, _ | ⟨b, _ | ⟨c, _ | ⟨d, rest⟩⟩⟩⟩ <;> simp_all [allMatch, elMatches_op, elMatches_D]
theorem allMatch_P4 {els : List El} (h : allMatch els [.op 0x6a, D] = true) : ∃ d, els = [.op 0x6a, .data d] := by
  rcases els with _ | ⟨a, _ | ⟨b, _ | ⟨c, rest⟩⟩⟩ <;> simp_all [allMatch, elMatches_op, elMatches_D]
theorem allMatch_P5 {els : List El} (h : allMatch els [.op 0x52, D, D, D, .op 0x53, .op 0xae] = true) :
    ∃ a b c, els = [.op 0x52, .data a, .data b, .data c, .op 0x53, .op 0xae] := by
  rcases els with _ | ⟨a, _ | ⟨b, _ | ⟨c, _ | ⟨d, _ | ⟨e, _ | ⟨f, _ | ⟨g, rest⟩⟩⟩⟩⟩⟩⟩ <;>
    simp_all [allMatch, elMatches_op, elMatches_D]

/-- the token template each verdict of the fork-coin evaluator stands for -/
def Shape (els : List El) : Pattern → Prop
  | .p2pkh => ∃ h, els = [.op 0x76, .op 0xa9, .data h, .op 0x88, .op 0xac]
  | .p2pk => ∃ k, els = [.data k, .op 0xac]
  | .p2sh => ∃ h, els = [.op 0xa9, .data h, .op 0x87]
  | .opReturn _ => ∃ d, els = [.op 0x6a, .data d]
  | .multisig => ∃ a b c, els = [.op 0x52, .data a, .data b, .data c, .op 0x53, .op 0xae]
  | _ => True

theorem evalCustom_sound (ver : UInt8) (s : Bytes) (p : Pattern) (h : (evalCustom ver s).pattern = p) (hp : p ≠ .notRecognised) :
    ∃ els, tokens s = some els ∧ Shape els p := by
  unfold evalCustom at h
  cases ht : tokens s with
  | none => rw [ht] at h; exact absurd h.symm hp
  | some els =>
    refine ⟨els, rfl, ?_⟩
    rw [ht] at h
    subst h
    simp only
    split
    · exact ⟨_, rfl⟩
    · exact ⟨_, rfl⟩
    · exact ⟨_, rfl⟩
    · exact ⟨_, rfl⟩
    · exact ⟨_, _, _, rfl⟩
    · trivial

theorem eval_eq (ver : UInt8) (s : Bytes) (hlen : s.length < 2^63) : eval ver s = .ok (evalCustom ver s) := by
  unfold eval evalCustom
  rw [loop_eq s hlen (s.length + 1) 0 [] (by omega) (by omega), List.drop_zero]
  cases tokens s with
  | none => rfl
  | some els =>
    simp only [expect, List.reverse_nil, List.nil_append]
    -- on each template both sides compute; on anything else no comparison of `eval_script_pattern` succeeds
    symm
    split
    · rfl
    · rfl
    · rfl
    · rfl
    · rfl
    · rename_i h1 h2 h3 h4 h5
      have n1 := Bool.eq_false_iff.mpr fun h => by obtain ⟨_, e⟩ := allMatch_P1 h; exact h1 _ e
      have n2 := Bool.eq_false_iff.mpr fun h => by obtain ⟨_, e⟩ := allMatch_P2 h; exact h2 _ e
      have n3 := Bool.eq_false_iff.mpr fun h => by obtain ⟨_, e⟩ := allMatch_P3 h; exact h3 _ e
      have n4 := Bool.eq_false_iff.mpr fun h => by obtain ⟨_, e⟩ := allMatch_P4 h; exact h4 _ e
      have n5 := Bool.eq_false_iff.mpr fun h => by obtain ⟨_, _, _, e⟩ := allMatch_P5 h; exact h5 _ _ _ e
      simp only [scriptPattern, matchPattern_eq, n1, n2, n3, n4, n5]
end SM
