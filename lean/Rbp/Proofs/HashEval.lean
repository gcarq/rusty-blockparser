import Rbp.Model.Addr
/-!
# List-based forms of SHA-256 and RIPEMD-160 that the kernel evaluates quickly

The model's compression functions are written as the Rust is (`for` loops over `Std.Legacy.Range`, a growing `Array` for the message
schedule, tables indexed with `[i]!`); reducing them in the kernel costs about eight times what the arithmetic does.  Here each is
restated as a structural recursion over lists, with the same word operations, and proved equal to the model's function, so that the
published vectors (`Rbp.Proofs.Vectors`) are evaluated on these forms.
-/

theorem Array.toList_eq_map_getElem! {β} [Inhabited β] (xs : Array β) :
    xs.toList = (List.range' 0 xs.size).map (xs[·]!) :=
  List.ext_getElem (by simp) fun i h _ => by simp [getElem!_pos xs i (by simpa using h)]

namespace Sha

/-- the next word of the message schedule from the words so far, newest first -/
def next (rw : List UInt32) : UInt32 :=
  let w15 := rw.getD 14 0
  let w2 := rw.getD 1 0
  rw.getD 15 0 + (rotr w15 7 ^^^ rotr w15 18 ^^^ (w15 >>> 3)) + rw.getD 6 0 + (rotr w2 17 ^^^ rotr w2 19 ^^^ (w2 >>> 10))

def schedL : Nat → List UInt32 → List UInt32
  | 0, rw => rw
  | n+1, rw => schedL n (next rw :: rw)

theorem schedL_length (n : Nat) (rw : List UInt32) : (schedL n rw).length = n + rw.length := by
  induction n generalizing rw with
  | zero => simp [schedL]
  | succ n ih => simp [schedL, ih]; omega

/-- a loop that at index `a` pushes a word `g b a` which is `next` of the array so far builds `schedL`; the loop body of
    `schedule` is matched against `g` where the lemma is applied, not written out again -/
theorem foldl_push {g : Array UInt32 → Nat → UInt32} (hg : ∀ b a, b.size = a → 16 ≤ a → g b a = next b.toList.reverse)
    (n i : Nat) (w : Array UInt32) (hi : w.size = i) (h16 : 16 ≤ i) :
    (List.foldl (fun b a => b.push (g b a)) w (List.range' i n)).toList = (schedL n w.toList.reverse).reverse := by
  induction n generalizing i w with
  | zero => simp [schedL]
  | succ n ih =>
    rw [List.range'_succ, List.foldl_cons, ih (i + 1) _ (by simp [hi]) (by omega), schedL, hg w i hi h16]
    simp

theorem schedule_toList (w : Array UInt32) (h : w.size = 16) :
    (schedule w).toList = (schedL 48 w.toList.reverse).reverse := by
  unfold schedule
  simp [Std.Legacy.Range.size]
  refine foldl_push (fun b a hb ha => ?_) 48 16 w h (Nat.le_refl _)
  subst hb
  have e (k : Nat) (hk : k < 16) : b[b.size - (k + 1)]! = b.toList.reverse.getD k 0 := by
    rw [getElem!_pos b _ (by omega), List.getD_eq_getElem?_getD, List.getElem?_reverse (by simp; omega)]
    simp [Nat.sub_sub, Nat.add_comm, show b.size - (k + 1) < b.size by omega]
  simp [next, e 15, e 14, e 6, e 1]

def roundL (t : St) (kw : UInt32 × UInt32) : St :=
  let S1 := rotr t.e 6 ^^^ rotr t.e 11 ^^^ rotr t.e 25
  let ch := (t.e &&& t.f) ^^^ ((~~~ t.e) &&& t.g)
  let t1 := t.h + S1 + ch + kw.1 + kw.2
  let S0 := rotr t.a 2 ^^^ rotr t.a 13 ^^^ rotr t.a 22
  let maj := (t.a &&& t.b) ^^^ (t.a &&& t.c) ^^^ (t.b &&& t.c)
  let t2 := S0 + maj
  ⟨t1 + t2, t.a, t.b, t.c, t.d + t1, t.e, t.f, t.g⟩

def compressL (s : St) (blk : List UInt32) : St :=
  let t := (K.toList.zip (schedL 48 blk.reverse).reverse).foldl roundL s
  ⟨s.a + t.a, s.b + t.b, s.c + t.c, s.d + t.d, s.e + t.e, s.f + t.f, s.g + t.g, s.h + t.h⟩

theorem compress_eq (s : St) (blk : Array UInt32) (h : blk.size = 16) : compress s blk = compressL s blk.toList := by
  have hs : (schedule blk).size = 64 := by
    rw [← Array.length_toList, schedule_toList blk h]; simp [schedL_length, h]
  have hz : K.toList.zip (schedule blk).toList = (List.range' 0 64).map fun a => (K[a]!, (schedule blk)[a]!) := by
    rw [K.toList_eq_map_getElem!, (schedule blk).toList_eq_map_getElem!, hs]; exact List.zip_map' ..
  simp [compress, compressL, roundL, Std.Legacy.Range.size, ← schedule_toList blk h, hz, List.foldl_map]

def blocksL : Nat → List UInt32 → St → St
  | 0, _, s => s
  | n + 1, ws, s =>
    match split16 ws with
    | some (blk, rest) => blocksL n rest (compressL s blk.toList)
    | none => s

theorem split16_size {ws rest : List UInt32} {blk : Array UInt32} (h : split16 ws = some (blk, rest)) : blk.size = 16 := by
  unfold split16 at h; split at h <;> simp at h; rw [← h.1]; rfl

theorem blocksFuel_eq (n : Nat) (ws : List UInt32) (s : St) : blocksFuel n ws s = blocksL n ws s := by
  induction n generalizing ws s with
  | zero => rfl
  | succ n ih =>
    unfold blocksFuel blocksL
    split
    · rename_i blk rest h
      simp only [h]; rw [compress_eq _ _ (split16_size h), ih]
    · rename_i h; simp only [h]

def sha256L (msg : List UInt8) : List UInt8 :=
  let ws := words (pad msg)
  let s := blocksL (ws.length / 16 + 1) ws init
  out32 s.a ++ out32 s.b ++ out32 s.c ++ out32 s.d ++ out32 s.e ++ out32 s.f ++ out32 s.g ++ out32 s.h

theorem sha256_eq : sha256 = sha256L := by
  funext msg; simp [sha256, sha256L, blocks, blocksFuel_eq]
end Sha

namespace A

/-- the per-round constants of both lanes side by side: message word index and rotation, left and right -/
def tabs : List (Nat × Nat × UInt32 × UInt32) := RL.toList.zip (RR.toList.zip (SL.toList.zip SR.toList))

theorem tabs_eq : tabs.zipIdx = (List.range' 0 80).map fun j => ((RL[j]!, RR[j]!, SL[j]!, SR[j]!), j) := by
  have hl : tabs.length = 80 := by decide
  refine List.ext_getElem (by simp [hl]) fun i h _ => ?_
  have hi : i < 80 := by simpa [hl] using h
  simp [tabs, getElem!_pos RL i hi, getElem!_pos RR i hi, getElem!_pos SL i hi, getElem!_pos SR i hi]
  exact ⟨rfl, rfl, rfl, rfl⟩

def roundL (x : List UInt32) (lr : H5 × H5) (cj : (Nat × Nat × UInt32 × UInt32) × Nat) : H5 × H5 :=
  let (l, r) := lr
  let ((il, ir, sl, sr), j) := cj
  let t := rl (l.a + f j l.b l.c l.d + x.getD il 0 + KL[j / 16]!) sl + l.e
  let t' := rl (r.a + f (79 - j) r.b r.c r.d + x.getD ir 0 + KR[j / 16]!) sr + r.e
  (⟨l.e, t, l.b, rl l.c 10, l.d⟩, ⟨r.e, t', r.b, rl r.c 10, r.d⟩)

def compressL (h : H5) (x : List UInt32) : H5 :=
  let (l, r) := tabs.zipIdx.foldl (roundL x) (h, h)
  ⟨h.b + l.c + r.d, h.c + l.d + r.e, h.d + l.e + r.a, h.e + l.a + r.b, h.a + l.b + r.c⟩

theorem compress_eq (h : H5) (x : Array UInt32) : compress h x = compressL h x.toList := by
  simp [compress, compressL, roundL, tabs_eq, List.foldl_map, Std.Legacy.Range.size, List.getD_eq_getElem?_getD,
    Array.getElem!_eq_getD (xs := x), show (default : UInt32) = 0 from rfl]

def blocksL : Nat → List UInt32 → H5 → H5
  | 0, _, s => s
  | n+1, ws, s => if ws.length < 16 then s else blocksL n (ws.drop 16) (compressL s (ws.take 16))

theorem blocks_eq (n : Nat) (ws : List UInt32) (s : H5) (h : ws.length ≤ n) : blocks ws s = blocksL n ws s := by
  induction n generalizing ws s with
  | zero => rw [blocks]; simp [blocksL]; omega
  | succ n ih =>
    rw [blocks, blocksL]
    split
    · rfl
    · rw [compress_eq, ih _ _ (by simp; omega)]

def ripemd160L (msg : Bytes) : Bytes :=
  let ws := wordsLE (padLE msg)
  let s := blocksL ws.length ws ⟨0x67452301, 0xEFCDAB89, 0x98BADCFE, 0x10325476, 0xC3D2E1F0⟩
  out32le s.a ++ out32le s.b ++ out32le s.c ++ out32le s.d ++ out32le s.e

theorem ripemd160_eq : ripemd160 = ripemd160L := by
  funext msg; simp [ripemd160, ripemd160L, blocks_eq _ _ _ (Nat.le_refl _)]
end A
