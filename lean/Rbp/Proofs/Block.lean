import Rbp.Proofs.Wire
import Rbp.Spec.BlockSpec
/-! Round trips for headers, merkle branches, AuxPoW sections and whole blocks (C01, C12). -/
namespace W
open Csv Aux

theorem readHeader_enc (h : Header) (hk : h.ok) : Reads readHeader h.enc h.toR := by
  obtain ⟨hv, hp, hm, ht, hb, hn⟩ := hk
  exact .of_eq (by simp [Header.enc]) <| .bind (.readLE hv) <| .bind (.take hp) <| .bind (.take hm) <| .bind (.readLE ht) <|
    .bind (.readLE hb) <| .bind (.readLE hn) (.pure _)

theorem header_toBytes (h : Header) : h.toR.toBytes = h.enc := by
  simp [RHeader.toBytes, Header.toR, Header.enc]

theorem header_enc_length (h : Header) (hk : h.ok) : h.enc.length = 80 := by
  obtain ⟨_, hp, hm, _, _, _⟩ := hk
  simp [Header.enc, toLE_length, hp, hm]

theorem readBranch_enc (b : Branch) (hk : b.ok) : Reads readBranch b.enc b.toR := by
  obtain ⟨hc, hn, hh, hm⟩ := hk
  have hs := Reads.readN (enc := id) (toR := id) hn (fun _ => .take) hh
  rw [List.map_id] at hs
  exact .of_eq (by simp [Branch.enc]) <| .bind (.varUint hc) <| .bind hs <| .bind (.readLE hm) (.pure _)

theorem readAuxPow_enc (a : AuxPow) (hk : a.ok) : Reads readAuxPow a.enc a.toR := by
  obtain ⟨hc, hp, h1, h2, hh⟩ := hk
  exact .of_eq (by simp [AuxPow.enc]) <| .bind (readTx_enc _ hc) <| .bind (.take hp) <| .bind (readBranch_enc _ h1) <|
    .bind (readBranch_enc _ h2) <| .bind (readHeader_enc _ hh) (.pure _)

theorem readBlockAux_enc (thr : Option Nat) (b : Block) (hk : b.ok thr) :
    Reads (readBlockAux thr) b.enc (b.toR, b.aux.map AuxPow.toR) := by
  obtain ⟨hh, hw, ha, hc, hn, ht⟩ := hk
  have haux : Reads (fun bs => if wantsAux thr b.header.version then (readAuxPow bs).map (fun (a, r) => (some a, r)) else some (none, bs))
      b.encAux (b.aux.map AuxPow.toR) := by
    unfold Block.encAux
    cases hx : b.aux with
    | none => exact .ite_neg (by simp [hw, hx]) (.pure _)
    | some a => exact .ite_pos (by simp [hw, hx]) (.map (readAuxPow_enc a (ha a hx)) fun _ => rfl)
  exact .of_eq (by simp [Block.enc]) <| .bind (readHeader_enc _ hh) <| .bind_ite haux <| .bind (.varUint hc) <|
    .bind (.readN hn readTx_enc ht) (.pure _)

theorem readBlockCoin_enc (thr : Option Nat) (b : Block) (hk : b.ok thr) : Reads (readBlockCoin thr) b.enc b.toR :=
  .map (readBlockAux_enc thr b hk) fun _ => rfl
end W
