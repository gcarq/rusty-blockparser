import Rbp.Proofs.Wire
import Rbp.Model.AuxPow
/-!
# The readers never succeed on a strict prefix of an encoding (C10: truncated files)

Every reader is *monotone*: a successful parse of `bs` is the same parse of `bs ++ s` with `s` left over.  Together with the
round-trip theorems (which say the encoding is consumed exactly) this gives: a reader applied to a strict prefix of
`enc x` fails — a blk file truncated inside a block can never yield a block.
-/
namespace W
open Csv Aux

def Mono {α} (p : P α) : Prop := ∀ bs x r s, p bs = some (x, r) → p (bs ++ s) = some (x, r ++ s)

theorem Mono.pure {α} (x : α) : Mono (fun bs => some (x, bs)) := by
  intro bs y r s h
  cases h; rfl

theorem Mono.bind {α β} {p : P α} {f : α → P β} (hp : Mono p) (hf : ∀ a, Mono (f a)) :
    Mono (fun bs => do let (x, bs') ← p bs; f x bs') := by
  intro bs y r s h
  cases h1 : p bs with
  | none => simp [h1] at h
  | some v => exact (congrArg (· >>= _) (hp bs v.1 v.2 s h1)).trans (hf v.1 v.2 y r s (by simpa [h1] using h))

/-- `Mono.bind` with the continuation as it stands in an elaborated `do` block (a function of the pair), cf. `Reads.bind` -/
theorem Mono.andThen {α β} {p : P α} {k : α × Bytes → Option (β × Bytes)} (hp : Mono p) (hk : ∀ a, Mono fun bs => k (a, bs)) :
    Mono fun bs => p bs >>= k :=
  Mono.bind (f := fun a bs => k (a, bs)) hp hk

theorem Mono.map {α β} {p : P α} (g : α → β) (hp : Mono p) : Mono (fun bs => (p bs).map fun (x, r) => (g x, r)) := by
  intro bs y r s h
  cases h1 : p bs with
  | none => simp [h1] at h
  | some v =>
    have := hp bs v.1 v.2 s h1
    simp_all

theorem Mono.ite {α} (c : Prop) [Decidable c] {p q : P α} (hp : Mono p) (hq : Mono q) : Mono (fun bs => if c then p bs else q bs) := by
  intro bs y r s h
  by_cases hc : c
  · simp only [hc, if_true] at h ⊢; exact hp bs y r s h
  · simp only [hc, if_false] at h ⊢; exact hq bs y r s h

/-- a `let x ← if c then p else q` of a `do` block (cf. `Reads.bind_ite`) -/
theorem Mono.bind_ite {α β} {c : Prop} [Decidable c] {p q : P α} {k : α × Bytes → Option (β × Bytes)} (hp : Mono p) (hq : Mono q)
    (hk : ∀ a, Mono fun bs => k (a, bs)) : Mono fun bs => if c then p bs >>= k else q bs >>= k :=
  .ite c (hp.andThen hk) (hq.andThen hk)

theorem mono_take (n : Nat) : Mono (take n) := by
  intro bs x r s h
  unfold take at h ⊢
  split at h
  · next hn =>
    cases h
    simp [List.take_append_of_le_length hn, List.drop_append_of_le_length hn, Nat.le_add_right_of_le hn]
  · cases h

theorem mono_readLE (k : Nat) : Mono (readLE k) := .map le (mono_take k)

theorem mono_readU8 : Mono readU8 := by
  intro bs x r s h
  cases bs with
  | nil => cases h
  | cons b t => cases h; rfl

theorem mono_readVarUint : Mono readVarUint := by
  intro bs x r s h
  cases bs with
  | nil => cases h
  | cons b t =>
    exact Mono.ite (b.toNat < 0xfd) (.pure _)
      (.map (fun v => (⟨v, b :: toLE (if b.toNat = 0xfd then 2 else if b.toNat = 0xfe then 4 else 8) v⟩ : VarUint)) (mono_readLE _)) t x r s h

theorem mono_readN {α} {p : P α} (hp : Mono p) : ∀ n, Mono (readN p n)
  | 0 => .pure []
  | n+1 => hp.andThen fun _ => (mono_readN hp n).andThen fun _ => .pure _

theorem mono_takeU32 (n : Nat) : Mono (takeU32 n) := mono_take _

theorem mono_readIn : Mono readIn :=
  (mono_take 32).andThen fun _ => (mono_readLE 4).andThen fun _ => mono_readVarUint.andThen fun _ =>
    (mono_takeU32 _).andThen fun _ => (mono_readLE 4).andThen fun _ => .pure _

theorem mono_readOut : Mono readOut :=
  (mono_readLE 8).andThen fun _ => mono_readVarUint.andThen fun _ => (mono_takeU32 _).andThen fun _ => .pure _

theorem mono_skipItem : Mono skipItem :=
  mono_readVarUint.andThen fun _ => (mono_takeU32 _).andThen fun _ => .pure _

theorem mono_skipStack : Mono skipStack :=
  mono_readVarUint.andThen fun _ => (mono_readN mono_skipItem _).andThen fun _ => .pure _

theorem mono_txTail (ver : Nat) (flag : UInt8) (icnt : VarUint) : Mono (txTail ver flag icnt) :=
  (mono_readN mono_readIn _).andThen fun _ => mono_readVarUint.andThen fun _ => (mono_readN mono_readOut _).andThen fun _ =>
    .bind_ite (mono_readN mono_skipStack _) (.pure _) fun _ => (mono_readLE 4).andThen fun _ => .pure _

theorem mono_readTx : Mono readTx :=
  (mono_readLE 4).andThen fun ver => mono_readVarUint.andThen fun c0 =>
    .ite _ (mono_readU8.andThen fun f => mono_readVarUint.andThen fun c => mono_txTail ver f c) (mono_txTail ver 0 c0)

theorem mono_readHeader : Mono readHeader :=
  (mono_readLE 4).andThen fun _ => (mono_take 32).andThen fun _ => (mono_take 32).andThen fun _ => (mono_readLE 4).andThen fun _ =>
    (mono_readLE 4).andThen fun _ => (mono_readLE 4).andThen fun _ => .pure _

theorem mono_readBranch : Mono readBranch :=
  mono_readVarUint.andThen fun _ => (mono_readN (mono_take 32) _).andThen fun _ => (mono_readLE 4).andThen fun _ => .pure _

theorem mono_readAuxPow : Mono readAuxPow :=
  mono_readTx.andThen fun _ => (mono_take 32).andThen fun _ => mono_readBranch.andThen fun _ => mono_readBranch.andThen fun _ =>
    mono_readHeader.andThen fun _ => .pure _

theorem mono_readBlockAux (thr : Option Nat) : Mono (readBlockAux thr) :=
  mono_readHeader.andThen fun _ => .bind_ite (.map some mono_readAuxPow) (.pure _) fun _ =>
    mono_readVarUint.andThen fun _ => (mono_readN mono_readTx _).andThen fun _ => .pure _

theorem mono_readBlockCoin (thr : Option Nat) : Mono (readBlockCoin thr) :=
  .map Prod.fst (mono_readBlockAux thr)

theorem strict_prefix_fails {α} {p : P α} (hm : Mono p) {e : Bytes} {a : α} (hr : Reads p e a) {pre suf : Bytes}
    (he : e = pre ++ suf) (hs : suf ≠ []) : p pre = none := by
  cases h : p pre with
  | none => rfl
  | some v =>
    have := (hm pre v.1 v.2 suf h).symm.trans (he ▸ (List.append_nil e ▸ hr []))
    simp_all
end W
