import Rbp.Model.Callbacks
/-! Closed forms of the simplestats accumulators over the delivered block list (C15). -/
namespace CB
open W Csv

theorem foldl_sum {σ α : Type} (f : σ → α → σ) (π : σ → Nat) (w : α → Nat) (h : ∀ s a, π (f s a) = π s + w a) :
    ∀ (l : List α) (s : σ), π (l.foldl f s) = π s + (l.map w).sum
  | [], _ => rfl
  | a :: l, s => by rw [List.foldl_cons, foldl_sum f π w h l, h, List.map_cons, List.sum_cons, Nat.add_assoc]

theorem foldl_keep {σ α β : Type} (f : σ → α → σ) (π : σ → β) (h : ∀ s a, π (f s a) = π s) :
    ∀ (l : List α) (s : σ), π (l.foldl f s) = π s
  | [], _ => rfl
  | a :: l, s => by rw [List.foldl_cons, foldl_keep f π h l, h]

def blockFees (b : EBlock) : Nat := (b.blk.txs.map (txFee b.height)).sum
def blockIns (b : EBlock) : Nat := (b.blk.txs.map (·.icnt.value)).sum
def blockOuts (b : EBlock) : Nat := (b.blk.txs.map (·.ocnt.value)).sum
def blockVolume (b : EBlock) : Nat := (b.blk.txs.map txVolume).sum

/-! What one block does to each field: the transaction fold moves it by a sum (`foldl_sum`) or leaves it alone (`foldl_keep`). -/
section
variable (ver : UInt8) (s : Stats) (b : EBlock)

theorem statsBlock_blocks : (statsBlock ver s b).blocks = s.blocks + 1 :=
  foldl_keep (statsTx ver b.height) Stats.blocks (fun _ _ => rfl) _ _
theorem statsBlock_txs : (statsBlock ver s b).txs = s.txs + b.blk.txCount.value :=
  foldl_keep (statsTx ver b.height) Stats.txs (fun _ _ => rfl) _ _
theorem statsBlock_fees : (statsBlock ver s b).fees = s.fees + blockFees b :=
  foldl_sum (statsTx ver b.height) Stats.fees _ (fun _ _ => rfl) _ _
theorem statsBlock_ins : (statsBlock ver s b).ins = s.ins + blockIns b :=
  foldl_sum (statsTx ver b.height) Stats.ins _ (fun _ _ => rfl) _ _
theorem statsBlock_outs : (statsBlock ver s b).outs = s.outs + blockOuts b :=
  foldl_sum (statsTx ver b.height) Stats.outs _ (fun _ _ => rfl) _ _
theorem statsBlock_volume : (statsBlock ver s b).volume = s.volume + blockVolume b :=
  foldl_sum (statsTx ver b.height) Stats.volume _ (fun _ _ => rfl) _ _
theorem statsBlock_sizes : (statsBlock ver s b).sizes = s.sizes ++ [b.size] :=
  foldl_keep (statsTx ver b.height) Stats.sizes (fun _ _ => rfl) _ _
theorem statsBlock_lastTs : (statsBlock ver s b).lastTs = b.blk.header.time := rfl

theorem statsBlock_gaps :
    (statsBlock ver s b).gaps = if s.lastTs > 0 then s.gaps ++ [b.blk.header.time - s.lastTs] else s.gaps := by
  let f := statsTx ver b.height
  show (if (b.blk.txs.foldl f _).lastTs > 0 then (b.blk.txs.foldl f _).gaps ++ _ else (b.blk.txs.foldl f _).gaps) = _
  rw [foldl_keep f (·.lastTs) (fun _ _ => rfl), foldl_keep f (·.gaps) (fun _ _ => rfl)]
end

theorem stats_fold (ver : UInt8) (bs : List EBlock) (s : Stats) :
    let r := bs.foldl (statsBlock ver) s
    r.blocks = s.blocks + bs.length ∧ r.txs = s.txs + (bs.map (·.blk.txCount.value)).sum ∧
    r.fees = s.fees + (bs.map blockFees).sum ∧ r.ins = s.ins + (bs.map blockIns).sum ∧
    r.outs = s.outs + (bs.map blockOuts).sum ∧ r.volume = s.volume + (bs.map blockVolume).sum ∧
    r.sizes = s.sizes ++ bs.map (·.size) :=
  ⟨by simpa [List.map_const', List.sum_replicate_nat] using foldl_sum _ (·.blocks) (fun _ => 1) (statsBlock_blocks ver) bs s,
   foldl_sum _ (·.txs) _ (statsBlock_txs ver) bs s, foldl_sum _ (·.fees) _ (statsBlock_fees ver) bs s,
   foldl_sum _ (·.ins) _ (statsBlock_ins ver) bs s, foldl_sum _ (·.outs) _ (statsBlock_outs ver) bs s,
   foldl_sum _ (·.volume) _ (statsBlock_volume ver) bs s,
   by
    induction bs generalizing s with
    | nil => simp
    | cons b bs ih => rw [List.foldl_cons, ih, statsBlock_sizes]; simp⟩

abbrev Row := String × Nat × Nat × Bytes
def lookupT (n : String) (ty : List Row) : Option Row := ty.find? (·.1 == n)

theorem find_map_bump (n : String) (ty : List Row) (m : String) :
    (ty.map (fun e => if e.1 == n then (e.1, e.2.1 + 1, e.2.2) else e)).find? (·.1 == m) =
      (ty.find? (·.1 == m)).map (fun e => if e.1 == n then (e.1, e.2.1 + 1, e.2.2) else e) := by
  rw [List.find?_map]
  congr 2
  funext e
  simp only [Function.comp]
  split <;> rfl

theorem bump_same (ty : List Row) (n : String) (h : Nat) (id : Bytes) :
    lookupT n (bump ty n h id) = match lookupT n ty with
      | some e => some (e.1, e.2.1 + 1, e.2.2)
      | none => some (n, 1, h, id) := by
  unfold bump lookupT
  rw [← List.isSome_find?]
  cases hl : ty.find? (·.1 == n) with
  | none => rw [if_neg (by simp), List.find?_append, hl]; simp
  | some e => rw [if_pos Option.isSome_some, find_map_bump, hl, Option.map_some, if_pos (List.find?_some hl)]

theorem bump_other (ty : List Row) (n m : String) (h : Nat) (id : Bytes) (hne : m ≠ n) :
    lookupT m (bump ty n h id) = lookupT m ty := by
  unfold bump lookupT
  split
  · rw [find_map_bump]
    cases hf : ty.find? (·.1 == m) with
    | none => rfl
    | some e => rw [Option.map_some, if_neg]; simpa [show e.1 = m by simpa using List.find?_some hf] using hne
  · rw [List.find?_append, List.find?_cons_of_neg (by simpa using hne.symm)]; simp

/-- the outputs of the delivered blocks in chain order, each with its type name, height and txid -/
def typeEvents (ver : UInt8) (bs : List EBlock) : List (String × Nat × Bytes) :=
  bs.flatMap fun b => b.blk.txs.flatMap fun t => t.outs.map fun o => ((S.eval ver o.script).pattern.name, b.height, txid t)

def bumpAll (evs : List (String × Nat × Bytes)) (ty : List Row) : List Row :=
  evs.foldl (fun ty e => bump ty e.1 e.2.1 e.2.2) ty

theorem bumpAll_lookup (n : String) (evs : List (String × Nat × Bytes)) (ty : List Row) :
    lookupT n (bumpAll evs ty) = match lookupT n ty with
      | some e => some (e.1, e.2.1 + (evs.filter (·.1 == n)).length, e.2.2)
      | none => ((evs.find? (·.1 == n)).map fun f => (n, (evs.filter (·.1 == n)).length, f.2.1, f.2.2)) := by
  induction evs generalizing ty with
  | nil => cases h : lookupT n ty <;> simp [bumpAll, h]
  | cons e evs ih =>
    simp only [bumpAll, List.foldl_cons] at ih ⊢
    rw [ih, List.filter_cons, List.find?_cons]
    cases hen : e.1 == n with
    | true =>
      rw [show e.1 = n by simpa using hen, bump_same]
      cases lookupT n ty <;> simp <;> omega
    | false => rw [bump_other _ _ _ _ _ (fun h => by simp [h] at hen)]; rfl

theorem stats_types (ver : UInt8) (bs : List EBlock) (s : Stats) :
    (bs.foldl (statsBlock ver) s).types = bumpAll (typeEvents ver bs) s.types := by
  unfold bumpAll typeEvents
  rw [List.foldl_flatMap]
  refine (List.foldl_hom Stats.types fun s b => ?_).symm
  rw [List.foldl_flatMap]
  refine List.foldl_hom Stats.types (g₁ := statsTx ver b.height)
    (init := { s with blocks := s.blocks + 1, txs := s.txs + b.blk.txCount.value, sizes := s.sizes ++ [b.size] }) fun s t => ?_
  rw [List.foldl_map]
  rfl
end CB
