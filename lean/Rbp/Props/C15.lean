import Rbp.Proofs.Stats
import Rbp.Proofs.RunSpec
import Rbp.Proofs.F64
import Rbp.Generated.Consts
import Rbp.Props.C10
/-!
# C15 — every simplestats figure equals an independent recomputation over the range
Integer figures are proved equal to closed expressions over the delivered block list; means are exact rationals
`numerator / count` in the model; the printed text of every floating-point figure is modelled exactly (`Rbp/Model/F64.lean`:
correctly rounded binary64 conversion, division and multiplication, `{:.k}` rounding half-to-even of the exact binary value) and
proved to be within half a unit of the last printed digit plus at most four rounding errors of 2^-53 of the exact quotient.
-/
namespace Rbp.Props.C15
open CB

/-- counts, volume and fees: block, transaction, input and output counts, total volume (sum of all output values) and total
    fees are the plain sums of their per-block definitions over the delivered blocks, and the block-size list is the list of
    stored length prefixes in chain order -/
theorem counts_volume_fees_spec (ver : UInt8) (bs : List EBlock) :
    let r := bs.foldl (statsBlock ver) {}
    r.blocks = bs.length ∧ r.txs = (bs.map (·.blk.txCount.value)).sum ∧
    r.fees = (bs.map blockFees).sum ∧ r.ins = (bs.map blockIns).sum ∧
    r.outs = (bs.map blockOuts).sum ∧ r.volume = (bs.map blockVolume).sum ∧
    r.sizes = bs.map (·.size) := by
  have := stats_fold ver bs {}
  simpa using this

/-- the fee of a coinbase is its first-output value above the subsidy, floored at zero; other transactions contribute none -/
theorem fee_rule (height : Nat) (t : W.RTx) :
    txFee height t = if isCoinbase t then (match t.outs with | o :: _ => o.value - reward height | [] => 0) else 0 := rfl

/-- the subsidy is 50 coins halved every 210000 heights -/
theorem reward_halving (height : Nat) : reward height = 5000000000 / 2 ^ (height / 210000) := by
  simp [reward, Nat.shiftRight_eq_div_pow]

/-- the subsidy rule in the SOURCE TEXT of `block.rs` (re-read on every run) is 50 coins halved every 210000 heights, and it
    is the rule the model's fee figure uses -/
theorem reward_constants_published (height : Nat) :
    Generated.rewardBase = 5000000000 ∧ Generated.halvingInterval = 210000 ∧
    reward height = Generated.rewardBase >>> (height / Generated.halvingInterval) := by
  refine ⟨by decide, by decide, rfl⟩

/-- the mean's numerator is the exact sum of the listed values and its denominator their number (no 32-bit wrap-around) -/
theorem mean_exact (ver : UInt8) (bs : List EBlock) :
    ((bs.foldl (statsBlock ver) {}).sizes.foldl (·+·) 0 = (bs.map (·.size)).sum) ∧
    (bs.foldl (statsBlock ver) {}).sizes.length = bs.length := by
  have h := (counts_volume_fees_spec ver bs).2.2.2.2.2.2
  rw [h]
  constructor
  · rw [List.sum_eq_foldl]
  · simp

/-- biggest transaction by value / by size: replaced only on a strictly greater value, so the first one wins on ties -/
theorem biggest_first_on_ties (ver : UInt8) (height : Nat) (s : Stats) (t : W.RTx) :
    (txVolume t ≤ s.bigVal.1 → (statsTx ver height s t).bigVal = s.bigVal) ∧
    (txVolume t > s.bigVal.1 → (statsTx ver height s t).bigVal = (txVolume t, height, txid t)) ∧
    (t.toBytes.length ≤ s.bigSize.1 → (statsTx ver height s t).bigSize = s.bigSize) ∧
    (t.toBytes.length > s.bigSize.1 → (statsTx ver height s t).bigSize = (t.toBytes.length, height, txid t)) := by
  simp only [statsTx]
  exact ⟨fun h => if_neg (Nat.not_lt.2 h), fun h => if_pos h, fun h => if_neg (Nat.not_lt.2 h), fun h => if_pos h⟩

/-- time between consecutive blocks: clamped at zero (non-monotonic timestamps), skipped for the first block -/
theorem time_gap_rule (ver : UInt8) (s : Stats) (b : EBlock) :
    (statsBlock ver s b).gaps = (if s.lastTs > 0 then s.gaps ++ [b.blk.header.time - s.lastTs] else s.gaps) ∧
    (statsBlock ver s b).lastTs = b.blk.header.time :=
  ⟨statsBlock_gaps ver s b, statsBlock_lastTs ver s b⟩

/-- per script type: the table the report prints holds, for every type name, the number of outputs of that type in the
    delivered range and the height / txid of the FIRST such output (chain order: blocks, transactions, outputs); a type that
    never occurs has no row.  (The share printed next to it is count / total outputs — a quotient of two proved integers.) -/
theorem type_table_spec (ver : UInt8) (bs : List EBlock) (n : String) :
    lookupT n (bs.foldl (statsBlock ver) {}).types =
      ((typeEvents ver bs).find? (·.1 == n)).map fun f => (n, ((typeEvents ver bs).filter (·.1 == n)).length, f.2.1, f.2.2) := by
  rw [stats_types, bumpAll_lookup]
  rfl

/-- **whole run.**  For a stored chain, `simplestats` — when none of its own u64 sums overflows and every coinbase-shaped
    transaction has an output (`statsPanics`) — exits 0 and reports exactly the accumulator of the theorems above folded
    over the delivered blocks -/
theorem simplestats_run_spec (o : Run.Opts) (key : Option W.Bytes) (kvs : List (W.Bytes × W.Bytes)) (files : List Run.BlkFile)
    (coin : Run.Coin) (ld : Run.Loaded) (hcoin : Run.coinOf o.coin = some coin) (hld : Run.loadIndex o kvs = .ok ld)
    (hkey : key ≠ some []) (sz : Nat → Nat) (blk : Nat → W.Block)
    (hs : ∀ k, o.start ≤ k → k < o.start + (ld.maxH + 1 - o.start) →
      Run.Stored coin key (files.filterMap fun f => (Run.parseBlkIndex f.name).map fun n => (n, f)) ld.trimmed k (sz k) (blk k) ∧
      (o.verify = true → Run.verifyBlock coin ld.trimmed (blk k).toR k = .ok ()))
    (hne : o.start ≤ ld.maxH) (hcb : o.callback = "simplestats")
    (hnp : statsPanics coin.version
      ((List.range' o.start (ld.maxH + 1 - o.start)).map (fun k => (⟨k, sz k, (blk k).toR⟩ : EBlock))) = false) :
    (Run.run o key kvs files).exit = 0 ∧
    (Run.run o key kvs files).stdout = statsLines
      (((List.range' o.start (ld.maxH + 1 - o.start)).map (fun k => (⟨k, sz k, (blk k).toR⟩ : EBlock))).foldl
        (statsBlock coin.version) {}) := by
  obtain ⟨h0, _, _, ho⟩ := Run.run_stored o key kvs files coin ld hcoin hld hkey sz blk hs hne
    (by simp only [Run.callbackPanics, hcb]; exact hnp)
  refine ⟨h0, ?_⟩
  rw [ho]; simp only [Run.callbackOut, hcb]

/-! ## the floating-point figures, as printed -/

/-- the figures of the report are these functions of the integer accumulators (the text the check compares character for
    character with the real report) -/
theorem figures_of_accumulators (s : Stats) :
    figureLines s =
      [s!"f_fees={F64.coins s.fees}", s!"f_volume={F64.coins s.volume}", s!"f_bigval={F64.coins s.bigVal.1}",
       s!"f_avg_size={F64.meanOver (s.sizes.foldl (·+·) 0) s.sizes.length 1024}",
       s!"f_avg_time={F64.meanOver (s.gaps.foldl (·+·) 0) s.gaps.length 60}",
       s!"f_avg_txs={F64.ratio s.txs s.blocks}", s!"f_avg_ins={F64.ratio s.ins s.txs}", s!"f_avg_outs={F64.ratio s.outs s.txs}",
       s!"f_avg_value={F64.valuePerOutput s.volume s.outs}"] ++
      s.types.map fun (n, c, _, _) => s!"share {n} {F64.share c s.outs}" := rfl

/-- **binary64 operations round to nearest.**  For every positive fraction `n / d` (the exact result of a conversion, a
    division or a multiplication of non-negative doubles) the model's result is a finite double whose value differs from
    `n / d` by at most `(n / d) / 2^53`; the 53-bit significand is chosen by `rhe`: a nearest integer, the even one on a tie -/
theorem float_round_to_nearest (n d : Nat) (hn : 0 < n) (hd : 0 < d) :
    ∃ N D, F64.rn n d = .fin N D ∧ 0 < D ∧
      (N : Rat) / D ≤ (n : Rat) / d + (n : Rat) / d / 2 ^ 53 ∧ (n : Rat) / d ≤ (N : Rat) / D + (n : Rat) / d / 2 ^ 53 :=
  F64.rn_close n d hn hd

theorem float_ties_to_even (a b : Nat) (hb : 0 < b) :
    (2 * a ≤ (2 * F64.rhe a b + 1) * b ∧ 2 * F64.rhe a b * b ≤ 2 * a + b) ∧ (2 * (a % b) = b → F64.rhe a b % 2 = 0) :=
  ⟨F64.rhe_near a b hb, F64.rhe_tie_even a b⟩

/-- **`{:.k}` prints the nearest k-digit decimal of the exact binary value** -/
theorem printed_is_nearest_decimal (k N D : Nat) (hD : 0 < D) :
    ((F64.digits k (.fin N D) : Nat) : Rat) / 10 ^ k ≤ (N : Rat) / D + 1 / (2 * 10 ^ k) ∧
    (N : Rat) / D ≤ ((F64.digits k (.fin N D) : Nat) : Rat) / 10 ^ k + 1 / (2 * 10 ^ k) :=
  F64.fmt_close k N D hD

/-- **each printed mean equals its exact definition up to rounding — for every `u64` accumulator.**  For all naturals (any
    magnitude; the code's values are `u64`) and non-zero denominators, the number printed for each floating-point figure —
    `shown k v`, the digits of `fmt k v` read as a decimal — satisfies `|shown − E| ≤ 1/(2·10^k) + K·E/2^53`, where `E` is the
    exact rational the property defines (`a/b`, `sum/len/c`, `x·10^-8`, `count/outs·100`, `vol/outs·10^-8`) and `K ≤ 10` bounds
    the accumulated effect of the correctly rounded operations in the code's expression (two conversions, the division(s) /
    multiplication(s), the inexact literal `1E-8`).  With accumulators below 2^53 the conversions are exact and `K ≤ 4`
    (`printed_figures_close_small`) -/
theorem printed_figures_close :
    (∀ a b : Nat, 0 < b → ∃ v, v.Fin ∧ F64.ratio a b = F64.fmt 2 v ∧ F64.Shows 2 6 v ((a : Rat) / b)) ∧
    (∀ sum len c : Nat, 0 < len → 0 < c → c < 2 ^ 53 →
      ∃ v, v.Fin ∧ F64.meanOver sum len c = F64.fmt 2 v ∧ F64.Shows 2 8 v ((sum : Rat) / len / c)) ∧
    (∀ x : Nat, ∃ v, v.Fin ∧ F64.coins x = F64.fmt 8 v ∧ F64.Shows 8 5 v ((x : Rat) * (1 / 10 ^ 8))) ∧
    (∀ count outs : Nat, 0 < outs →
      ∃ v, v.Fin ∧ F64.share count outs = F64.fmt 2 v ∧ F64.Shows 2 8 v ((count : Rat) / outs * 100)) ∧
    (∀ vol outs : Nat, 0 < outs →
      ∃ v, v.Fin ∧ F64.valuePerOutput vol outs = F64.fmt 2 v ∧ F64.Shows 2 10 v ((vol : Rat) / outs * (1 / 10 ^ 8))) :=
  ⟨F64.ratio_shows_any, F64.meanOver_shows_any, F64.coins_shows_any, F64.share_shows_any, F64.valuePerOutput_shows_any⟩

theorem printed_figures_close_small :
    (∀ a b : Nat, a < 2 ^ 53 → 0 < b → b < 2 ^ 53 →
      ∃ v, v.Fin ∧ F64.ratio a b = F64.fmt 2 v ∧ F64.Shows 2 1 v ((a : Rat) / b)) ∧
    (∀ sum len c : Nat, sum < 2 ^ 53 → 0 < len → len < 2 ^ 53 → 0 < c → c < 2 ^ 53 →
      ∃ v, v.Fin ∧ F64.meanOver sum len c = F64.fmt 2 v ∧ F64.Shows 2 3 v ((sum : Rat) / len / c)) ∧
    (∀ x : Nat, x < 2 ^ 53 → ∃ v, v.Fin ∧ F64.coins x = F64.fmt 8 v ∧ F64.Shows 8 3 v ((x : Rat) * (1 / 10 ^ 8))) ∧
    (∀ count outs : Nat, count < 2 ^ 53 → 0 < outs → outs < 2 ^ 53 →
      ∃ v, v.Fin ∧ F64.share count outs = F64.fmt 2 v ∧ F64.Shows 2 3 v ((count : Rat) / outs * 100)) ∧
    (∀ vol outs : Nat, vol < 2 ^ 53 → 0 < outs → outs < 2 ^ 53 →
      ∃ v, v.Fin ∧ F64.valuePerOutput vol outs = F64.fmt 2 v ∧ F64.Shows 2 4 v ((vol : Rat) / outs * (1 / 10 ^ 8))) :=
  ⟨F64.ratio_shows, F64.meanOver_shows, F64.coins_shows, F64.share_shows, F64.valuePerOutput_shows⟩

/-- non-vacuity / tests of the float model on literals: 1/8 and 3/8 print as ties to even, 1e-8 is inexact, 0/0 is NaN -/
example : F64.ratio 1 8 = "0.12" ∧ F64.ratio 3 8 = "0.38" ∧ F64.ratio 0 0 = "NaN" ∧ F64.ratio 5 0 = "inf" ∧
    F64.coins 18446744073709551615 = "184467440737.09552002" ∧ F64.share 3 7 = "42.86" := by
  decide +kernel

/-- **every input.**  Whenever a `simplestats` run exits 0, the report is `statsLines` of the accumulator folded over exactly the
    delivered blocks (integer figures by the theorems above, floating-point figures by `figures_of_accumulators`) -/
theorem exit0_report_is_fold_over_delivered (o : Run.Opts) (key : Option W.Bytes) (kvs : List (W.Bytes × W.Bytes)) (files : List Run.BlkFile)
    (coin : Run.Coin) (hcoin : Run.coinOf o.coin = some coin) (hcb : o.callback = "simplestats")
    (h0 : (Run.run o key kvs files).exit = 0) :
    (Run.run o key kvs files).stdout = statsLines ((Run.deliveredBlocks o key kvs files).foldl (statsBlock coin.version) {}) := by
  have := (Rbp.Props.C10.exit0_output_is_callback_over_delivered o key kvs files coin hcoin h0).2
  rw [this]
  simp [Run.callbackOut, hcb]

/-- non-vacuity: sizes whose sum exceeds 2^32 are summed exactly -/
example : ([0x90000000, 0x90000000, 0x90000000] : List Nat).sum = 7247757312 ∧ 7247757312 > 2^32 := by decide

end Rbp.Props.C15
