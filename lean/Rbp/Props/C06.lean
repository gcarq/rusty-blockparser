import Rbp.Proofs.ScriptMachine
import Rbp.Generated.Consts
import Rbp.Proofs.Base58Check
/-!
# C06 — fork coins: scripts are tokenised by Bitcoin push rules and typed by template
-/
namespace Rbp.Props.C06
open S SM

/-- Bitcoin's push rules as a grammar: tokenising the encoding of any well-formed token list gives the list back
    (direct pushes 1–75, PUSHDATA1/2/4 with little-endian lengths read from the bytes *after* the opcode). -/
theorem tokenise_roundtrip (toks : List T.Tok) (h : ∀ t ∈ toks, t.WF) :
    T.tokenise (toks.flatMap T.Tok.enc) = some toks :=
  T.tokenise_enc toks h

/-- and conversely the tokeniser only returns token lists that re-encode to the script, every token well-formed: so
    `tokenise s = some toks ↔ s` is the encoding of the well-formed list `toks`, and `tokenise s = none` — the script is
    unrecognised — exactly when `s` is the encoding of NO well-formed token list, i.e. some push runs past the end -/
theorem tokenise_sound (s : Bytes) (toks : List T.Tok) (h : T.tokenise s = some toks) :
    s = toks.flatMap T.Tok.enc ∧ ∀ t ∈ toks, t.WF :=
  T.tokenise_sound s.length s toks rfl h

theorem tokenise_iff (s : Bytes) (toks : List T.Tok) :
    T.tokenise s = some toks ↔ (s = toks.flatMap T.Tok.enc ∧ ∀ t ∈ toks, t.WF) :=
  ⟨tokenise_sound s toks, fun ⟨hs, hw⟩ => by rw [hs]; exact T.tokenise_enc toks hw⟩

theorem unrecognised_iff_no_encoding (s : Bytes) :
    T.tokenise s = none ↔ ¬ ∃ toks : List T.Tok, s = toks.flatMap T.Tok.enc ∧ ∀ t ∈ toks, t.WF := by
  constructor
  · rintro h ⟨toks, hs, hw⟩
    rw [hs, T.tokenise_enc toks hw] at h
    cases h
  · intro h
    cases ht : T.tokenise s with
    | none => rfl
    | some toks => exact absurd ⟨toks, tokenise_sound s toks ht⟩ h

/-- non-vacuity: OP_RETURN PUSHDATA1 "abcde" is a well-formed token list -/
example : ∀ t ∈ [T.Tok.op 0x6a, T.Tok.push .pd1 [0x61, 0x62, 0x63, 0x64, 0x65]], t.WF := by
  intro t ht
  simp only [List.mem_cons, List.not_mem_nil, or_false] at ht
  rcases ht with rfl | rfl <;> simp [T.Tok.WF, T.Form.width]

/-- the evaluator's token vector is the push-rule tokenisation with no-op opcodes dropped, empty pushes turned into
    their opcode and push forms forgotten; it is absent exactly when a push runs past the end -/
theorem tokens_eq_spec (s : Bytes) : tokens s = (T.tokenise s).map erase :=
  SM.tokens_eq_spec s.length s rfl

/-- type ⇔ template, a data slot accepting any non-empty push (P2PKH / P2PK / P2SH / data output / 2-of-3 multisig);
    everything else, including every script with a push past the end, is NotRecognised -/
theorem type_iff_template (ver : UInt8) (s : Bytes) :
    ((evalCustom ver s).pattern = .p2pkh ↔ ∃ h, tokens s = some [.op 0x76, .op 0xa9, .data h, .op 0x88, .op 0xac]) ∧
    ((evalCustom ver s).pattern = .p2pk ↔ ∃ k, tokens s = some [.data k, .op 0xac]) ∧
    ((evalCustom ver s).pattern = .p2sh ↔ ∃ h, tokens s = some [.op 0xa9, .data h, .op 0x87]) ∧
    ((∃ p, (evalCustom ver s).pattern = .opReturn p) ↔ ∃ d, tokens s = some [.op 0x6a, .data d]) ∧
    ((evalCustom ver s).pattern = .multisig ↔ ∃ a b c, tokens s = some [.op 0x52, .data a, .data b, .data c, .op 0x53, .op 0xae]) := by
  have fwd := evalCustom_sound ver s
  refine ⟨⟨fun h => ?_, fun ⟨_, h⟩ => by rw [evalCustom, h]; rfl⟩, ⟨fun h => ?_, fun ⟨_, h⟩ => by rw [evalCustom, h]; rfl⟩,
    ⟨fun h => ?_, fun ⟨_, h⟩ => by rw [evalCustom, h]; rfl⟩, ⟨fun ⟨_, h⟩ => ?_, fun ⟨_, h⟩ => ⟨_, by rw [evalCustom, h]; rfl⟩⟩,
    ⟨fun h => ?_, fun ⟨_, _, _, h⟩ => by rw [evalCustom, h]; rfl⟩⟩
  all_goals obtain ⟨els, ht, hsh⟩ := fwd _ h nofun
  · obtain ⟨x, rfl⟩ := hsh; exact ⟨x, ht⟩
  · obtain ⟨x, rfl⟩ := hsh; exact ⟨x, ht⟩
  · obtain ⟨x, rfl⟩ := hsh; exact ⟨x, ht⟩
  · obtain ⟨x, rfl⟩ := hsh; exact ⟨x, ht⟩
  · obtain ⟨x, y, z, rfl⟩ := hsh; exact ⟨x, y, z, ht⟩

/-- address formulas: Base58Check(version ‖ pushed hash) for P2PKH, Base58Check(version ‖ HASH160(pushed key)) for P2PK,
    Base58Check(0x05 ‖ pushed hash) for P2SH — and no address for every other script -/
theorem address_formula (ver : UInt8) (s : Bytes) :
    (∀ h, tokens s = some [.op 0x76, .op 0xa9, .data h, .op 0x88, .op 0xac] → (evalCustom ver s).address = some (A.base58check (ver :: h))) ∧
    (∀ k, tokens s = some [.data k, .op 0xac] → (evalCustom ver s).address = some (A.base58check (ver :: A.hash160 k))) ∧
    (∀ h, tokens s = some [.op 0xa9, .data h, .op 0x87] → (evalCustom ver s).address = some (A.base58check (5 :: h))) ∧
    ((evalCustom ver s).pattern ≠ .p2pkh → (evalCustom ver s).pattern ≠ .p2pk → (evalCustom ver s).pattern ≠ .p2sh →
      (evalCustom ver s).address = none) := by
  refine ⟨fun h ht => by rw [evalCustom, ht]; rfl, fun k ht => by rw [evalCustom, ht]; rfl, fun h ht => by rw [evalCustom, ht]; rfl, ?_⟩
  unfold evalCustom
  cases tokens s with
  | none => exact fun _ _ _ => rfl
  | some els => dsimp only; split <;> simp

/-- the addresses of `address_formula` decode, with a valid checksum, to the coin's version byte followed by the pushed hash
    (P2PKH), by HASH160 of the pushed key (P2PK), or to 0x05 followed by the pushed hash (P2SH) -/
theorem address_decodes (ver : UInt8) (s : Bytes) :
    (∀ h, tokens s = some [.op 0x76, .op 0xa9, .data h, .op 0x88, .op 0xac] →
      ∃ a, (evalCustom ver s).address = some a ∧ A.base58checkDecode a = some (ver :: h)) ∧
    (∀ k, tokens s = some [.data k, .op 0xac] →
      ∃ a, (evalCustom ver s).address = some a ∧ A.base58checkDecode a = some (ver :: A.hash160 k)) ∧
    (∀ h, tokens s = some [.op 0xa9, .data h, .op 0x87] →
      ∃ a, (evalCustom ver s).address = some a ∧ A.base58checkDecode a = some (5 :: h)) := by
  obtain ⟨a1, a2, a3, _⟩ := address_formula ver s
  exact ⟨fun h ht => ⟨_, a1 h ht, A.base58checkDecode_base58check _⟩, fun k ht => ⟨_, a2 k ht, A.base58checkDecode_base58check _⟩,
    fun h ht => ⟨_, a3 h ht, A.base58checkDecode_base58check _⟩⟩

/-- no input can make evaluation fail: the panic-site model of the evaluator never panics (see C14) -/
theorem eval_total (ver : UInt8) (s : Bytes) (hlen : s.length < 2^63) : SM.eval ver s = .ok (evalCustom ver s) :=
  eval_eq ver s hlen

/-- the published version bytes of the six fork coins, and of the two Bitcoin networks -/
def publishedVersions : List (String × Nat) :=
  [("bitcoin", 0x00), ("testnet3", 0x6f), ("namecoin", 0x34), ("litecoin", 0x30), ("dogecoin", 0x1e),
   ("myriadcoin", 0x32), ("unobtanium", 0x82), ("noteblockchain", 0x35)]

/-- the coin table compiled into the binary built from the working tree carries the published version bytes -/
theorem coin_table_published : Generated.coins.map (fun c => (c.cli, c.version)) = publishedVersions :=
  rfl

end Rbp.Props.C06
