import Rbp.Model.Merkle
import Rbp.Model.Run
import Rbp.Proofs.RunSpec
import Rbp.Proofs.Vectors
import Rbp.Props.C10
/-!
# C09 — `--verify` accepts exactly the chains whose merkle roots and prev-hash links hold
-/
namespace Rbp.Props.C09
open M

/-- the loop of `utils::merkle_root` (hash full pairs; when the length is odd hash the last element with itself)
    computes the Bitcoin merkle root of the textbook recursion, for every list; it terminates, and fails only on `[]` -/
theorem merkle_eq_spec (H : Bytes → Bytes) (hs : List Bytes) : rootRust H hs = root H hs :=
  rootRust_eq H hs

/-- one level as the Rust code writes it = one textbook level (odd levels duplicate their last hash) -/
theorem level_eq_spec (H : Bytes → Bytes) (hs : List Bytes) : levelRust H hs = level H hs := levelRust_eq H hs

/-- tampering is detected up to collisions: two *different* txid lists of the same length with the same merkle root
    give an explicit collision of the hash function (no injectivity assumed) -/
theorem tamper_gives_collision (H : Bytes → Bytes) (h32 : ∀ x, (H x).length = 32) (xs ys : List Bytes)
    (hlen : xs.length = ys.length) (hx : ∀ x ∈ xs, x.length = 32) (hy : ∀ y ∈ ys, y.length = 32) (hne : xs ≠ ys)
    (heq : rootRust H xs = rootRust H ys) (hsome : rootRust H xs ≠ none) : ∃ p q : Bytes, p ≠ q ∧ H p = H q := by
  rw [merkle_eq_spec, merkle_eq_spec] at heq
  exact root_collision H h32 xs ys hlen hx hy hne heq

/-- decision logic of `ChainStorage::verify`, stated outright: a block with at least one tx whose predecessor record is
    present is accepted iff its merkle root matches, and (height 0) it hashes to the coin's genesis hash or
    (height > 0) its prev-hash is the indexed hash of the preceding height -/
theorem verify_iff (coin : Run.Coin) (idx : List (Nat × Wk.Rec)) (b : Csv.RBlock) (h : Nat) (p : Wk.Rec)
    (hp : h > 0 → Run.lookup idx (h - 1) = some p) :
    (∃ u, Run.verifyBlock coin idx b h = .ok u) ↔
      (rootRust A.sha256d (Run.txids b) = some b.header.merkle ∧
       (h = 0 → Run.blockHash b = coin.genesis) ∧ (h > 0 → b.header.prev = p.hash)) := by
  rw [show (∃ u, Run.verifyBlock coin idx b h = .ok u) ↔ Run.verifyBlock coin idx b h = .ok () from
    ⟨fun ⟨_, e⟩ => e, fun e => ⟨_, e⟩⟩, Run.verifyBlock_ok_iff]
  refine and_congr_right fun _ => and_congr_right fun _ => ⟨fun hx hpos => ?_, fun hx hpos => ⟨p, hp hpos, hx hpos⟩⟩
  obtain ⟨q, hq, e⟩ := hx hpos
  rwa [Option.some.inj ((hp hpos).symm.trans hq)]

/-- **a rejected block ends the run.**  With `--verify`, if heights `start..k-1` are served and accepted and the block read at
    height `k` is rejected (`verifyBlock` returns an error: merkle root, genesis hash or prev-hash), the process exits 1,
    reports height `k` and that error, and no final-named output exists -/
theorem rejected_no_final (o : Run.Opts) (key : Option W.Bytes) (kvs : List (W.Bytes × W.Bytes)) (files : List Run.BlkFile)
    (coin : Run.Coin) (ld : Run.Loaded) (hcoin : Run.coinOf o.coin = some coin) (hld : Run.loadIndex o kvs = .ok ld)
    (hfiles : (files.filterMap fun f => (Run.parseBlkIndex f.name).map fun n => (n, f)) ≠ [])
    (hkey : key ≠ some []) (k : Nat) (m : String) (hk1 : o.start ≤ k) (hk2 : k ≤ ld.maxH) (hv : o.verify = true)
    (r : Wk.Rec) (f : Run.BlkFile) (sz : Nat) (b : Csv.RBlock)
    (hl : Run.lookup ld.trimmed k = some r)
    (hfile : ((files.filterMap fun f => (Run.parseBlkIndex f.name).map fun n => (n, f)).find? (·.1 == r.file)).map (·.2) = some f)
    (hread : Run.readAt coin key f r.off = .ok (sz, b)) (hrej : Run.verifyBlock coin ld.trimmed b k = .err m)
    (hs : ∀ j, o.start ≤ j → j < k →
      Run.Servable coin o key (files.filterMap fun f => (Run.parseBlkIndex f.name).map fun n => (n, f)) ld.trimmed j) :
    (Run.run o key kvs files).exit = 1 ∧ (Run.run o key kvs files).errHeight = some k ∧ (Run.run o key kvs files).msg = m ∧
    (Run.run o key kvs files).files = [] := by
  have := C10.input_fault_no_final o key kvs files coin ld hcoin hld hfiles hkey k m hk1 hk2
    ⟨r, hl, .inr ⟨f, hfile, .inr ⟨sz, b, hread, hv, hrej⟩⟩⟩ hs
  exact ⟨this.1, this.2.1, this.2.2.1, this.2.2.2.1⟩

/-- **`--verify` decides exactly the stated conditions, for the whole run.**  For a chain all of whose blocks in the range can
    be read (`Run.Stored`) and on which verification never panics (every block has a transaction and the record of its
    predecessor is present), a `--verify` run of csvdump succeeds iff EVERY processed block is accepted by `verifyBlock` —
    which by `verify_iff` means: merkle root matches, height 0 hashes to the genesis hash, prev-hash equals the indexed hash of
    the preceding height.  When some block is rejected the run exits 1 at the first such height and no final-named file exists -/
theorem verify_run_decides (o : Run.Opts) (key : Option W.Bytes) (kvs : List (W.Bytes × W.Bytes)) (files : List Run.BlkFile)
    (coin : Run.Coin) (ld : Run.Loaded) (hcoin : Run.coinOf o.coin = some coin) (hld : Run.loadIndex o kvs = .ok ld)
    (hkey : key ≠ some []) (sz : Nat → Nat) (blk : Nat → W.Block)
    (hst : ∀ k, o.start ≤ k → k < o.start + (ld.maxH + 1 - o.start) →
      Run.Stored coin key (files.filterMap fun f => (Run.parseBlkIndex f.name).map fun n => (n, f)) ld.trimmed k (sz k) (blk k))
    (hnp : ∀ k, o.start ≤ k → k < o.start + (ld.maxH + 1 - o.start) → ∀ m, Run.verifyBlock coin ld.trimmed (blk k).toR k ≠ .panic m)
    (hne : o.start ≤ ld.maxH) (hv : o.verify = true) (hcb : o.callback = "csvdump") :
    ((Run.run o key kvs files).exit = 0 ↔
      ∀ k, o.start ≤ k → k < o.start + (ld.maxH + 1 - o.start) → Run.verifyBlock coin ld.trimmed (blk k).toR k = .ok ()) ∧
    ((Run.run o key kvs files).exit ≠ 0 → (Run.run o key kvs files).files = []) := by
  refine ⟨⟨fun h0 k => ?_, fun hall => (Run.run_stored o key kvs files coin ld hcoin hld hkey sz blk
    (fun k h1 h2 => ⟨hst k h1 h2, fun _ => hall k h1 h2⟩) hne (by simp [Run.callbackPanics, hcb])).1⟩,
    (C10.nonzero_exit_no_final_files o key kvs files).1⟩
  -- by induction on `k`: the heights before `k` were accepted, so a rejection at `k` would end the run there with status 1
  induction k using Nat.strongRecOn with | _ k ih =>
  intro hk1 hk2
  obtain ⟨r, f, hl, hf, hread⟩ := (hst k hk1 hk2).readAt
  cases hvb : Run.verifyBlock coin ld.trimmed (blk k).toR k with
  | ok => rfl
  | panic m => exact absurd hvb (hnp k hk1 hk2 m)
  | err m =>
    have := rejected_no_final o key kvs files coin ld hcoin hld (hst k hk1 hk2).table_ne_nil hkey k m hk1 (by omega) hv r f (sz k)
      (blk k).toR hl hf hread hvb fun j hj1 hj2 => (hst j hj1 (by omega)).servable fun _ => ih j hj2 hj1 (by omega)
    rw [this.1] at h0
    cases h0

/-- **`--verify`, for every input: what was delivered had been accepted.**  No hypothesis on the data directory: under
    `--verify`, every block that reaches a callback — in a run that later fails as well as in one that completes — satisfied
    `verifyBlock` at its height, i.e. (by `verify_iff`) its merkle root matches, at height 0 it hashes to the genesis hash, above 0
    its prev-hash is the indexed hash of the preceding height.  With `verify_run_decides` (every block accepted ⇒ exit 0 on a readable
    chain) this is the `if and only if` of the property -/
theorem verified_run_only_delivers_accepted_blocks (o : Run.Opts) (key : Option W.Bytes) (kvs : List (W.Bytes × W.Bytes)) (files : List Run.BlkFile)
    (coin : Run.Coin) (ld : Run.Loaded) (hcoin : Run.coinOf o.coin = some coin) (hld : Run.loadIndex o kvs = .ok ld) (hv : o.verify = true) :
    ∀ b ∈ Run.deliveredBlocks o key kvs files, Run.verifyBlock coin ld.trimmed b.blk b.height = .ok () := by
  intro b hb
  rw [Run.deliveredBlocks_eq hcoin hld] at hb
  obtain ⟨j, hj⟩ := Run.scan_mem _ _ _ b hb
  obtain ⟨hh, hok⟩ := Run.serve_inv hj
  rw [hh]
  exact hok hv

/-- genesis hashes compiled into the binary built from the working tree = the published ones -/
theorem genesis_table_published :
    Generated.coins.map (fun c => (c.cli, c.genesis)) =
      [("bitcoin", "000000000019d6689c085ae165831e934ff763ae46a2a6c172b3f1b60a8ce26f"),
       ("testnet3", "000000000933ea01ad0ee984209779baaec3ced90fa3f408719526f8d77f4943"),
       ("namecoin", "000000000062b72c5e2ceb45fbc8587e807c155b0da735e6483dfba2f0a9c770"),
       ("litecoin", "12a765e31ffd4059bada1e25190f6e98c99d9714d334efa41a195a7e7e04bfe2"),
       ("dogecoin", "1a91e3dace36e2be3bf030a65679fe821aa1d6ef92e7c9902eb318182c355691"),
       ("myriadcoin", "00000ffde4c020b5938441a0ea3d314bf619eff0b38f32f78f7583cffa1ea485"),
       ("unobtanium", "000004c2fc5fffb810dccc197d603690099a68305232e552d96ccbe8e2c52b75"),
       ("noteblockchain", "270f3e7b185c412d57ba913d10658df54f15201a67d736cb4071a4ec4eb54836")] :=
  rfl

/-- a published vector (a test, not the unbounded claim): the model's double SHA-256 of the real Bitcoin genesis header is the hash
    the coin table publishes, evaluated by the kernel -/
theorem genesis_header_hashes_to_published_hash :
    Sha.hex (A.sha256d (Vec.bytes "0100000000000000000000000000000000000000000000000000000000000000000000003ba3edfd7a7b12b27ac72c3e67768f617fc81bc3888a51323a9fb8aa4b1e5e4a29ab5f49ffff001d1dac2b7c")).reverse =
      "000000000019d6689c085ae165831e934ff763ae46a2a6c172b3f1b60a8ce26f" :=
  Vec.bitcoin_genesis.1

end Rbp.Props.C09
