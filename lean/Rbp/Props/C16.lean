import Rbp.Proofs.Tokens
import Rbp.Proofs.RunSpec
import Rbp.Proofs.Lossy
import Rbp.Proofs.Utf8Spec
import Rbp.Props.C10
/-!
# C16 — opreturn prints exactly the non-empty UTF-8 payloads, in chain order
-/
namespace Rbp.Props.C16
open S SM CB

/-- fork coins: OP_RETURN followed by exactly one data push — direct, PUSHDATA1, PUSHDATA2 or PUSHDATA4, any non-empty
    payload the form can carry — is typed OpReturn with exactly the pushed payload, lossily decoded (invalid sequences
    become U+FFFD) -/
theorem single_push_fork (ver : UInt8) (f : T.Form) (p : Bytes) (hwf : (T.Tok.push f p).WF) (hne : p ≠ []) :
    evalCustom ver (singlePush f p) = ⟨.opReturn (L.lossy p), none⟩ := by
  obtain ⟨h1, h2⟩ := singlePush_reads f p hwf
  rw [evalCustom, h1.tokens, h2.tokens, tokens_nil, eraseTok_push f p hne]
  rfl

/-- Bitcoin / testnet3: the same script is typed OpReturn with exactly the pushed payload when it is valid UTF-8
    (`L.valid`: Unicode's Table 3-7, proved below to accept exactly the encodings of sequences of Unicode scalar values), and
    with the empty payload — nothing is printed — otherwise -/
theorem single_push_btc (testnet : Bool) (f : T.Form) (p : Bytes) (hwf : (T.Tok.push f p).WF) :
    evalBtc testnet (singlePush f p) =
      ⟨.opReturn (if L.valid p then p else []), none⟩ := by
  obtain ⟨h1, h2⟩ := singlePush_reads f p hwf
  rw [evalBtc, h1.instrs, h2.instrs]
  rfl

/-- the callback prints a line for an output iff its script is typed OpReturn with a non-empty payload; every other
    output prints nothing -/
theorem line_iff (ver : UInt8) (b : EBlock) (t : W.RTx) (o : W.ROut) :
    (∃ l, (match (S.eval ver o.script).pattern with
        | .opReturn p => if p.isEmpty then none else some l
        | _ => (none : Option String)) = some l) ↔
      ∃ p, (S.eval ver o.script).pattern = .opReturn p ∧ p ≠ [] := by
  cases h : (S.eval ver o.script).pattern <;> simp

/-- lines appear in chain order: the lines of a concatenation of block lists are the concatenation of their lines
    (blocks in order, transactions in order, outputs in order) -/
theorem lines_in_chain_order (ver : UInt8) (bs1 bs2 : List EBlock) :
    opreturnLines ver (bs1 ++ bs2) = opreturnLines ver bs1 ++ opreturnLines ver bs2 := by
  simp [opreturnLines]

/-- **whole run.**  For a stored chain, `opreturn` exits 0, writes no file, and its stdout is exactly `opreturnLines` over the
    delivered blocks: one line per output typed OP_RETURN with a non-empty payload, in chain order (`line_iff`,
    `lines_in_chain_order`), each `height: <h padded to 9> txid: <txid>    data: <payload>` -/
theorem opreturn_run_spec (o : Run.Opts) (key : Option W.Bytes) (kvs : List (W.Bytes × W.Bytes)) (files : List Run.BlkFile)
    (coin : Run.Coin) (ld : Run.Loaded) (hcoin : Run.coinOf o.coin = some coin) (hld : Run.loadIndex o kvs = .ok ld)
    (hkey : key ≠ some []) (sz : Nat → Nat) (blk : Nat → W.Block)
    (hs : ∀ k, o.start ≤ k → k < o.start + (ld.maxH + 1 - o.start) →
      Run.Stored coin key (files.filterMap fun f => (Run.parseBlkIndex f.name).map fun n => (n, f)) ld.trimmed k (sz k) (blk k) ∧
      (o.verify = true → Run.verifyBlock coin ld.trimmed (blk k).toR k = .ok ()))
    (hne : o.start ≤ ld.maxH) (hcb : o.callback = "opreturn") :
    (Run.run o key kvs files).exit = 0 ∧ (Run.run o key kvs files).files = [] ∧
    (Run.run o key kvs files).stdout = opreturnLines coin.version
      ((List.range' o.start (ld.maxH + 1 - o.start)).map (fun k => (⟨k, sz k, (blk k).toR⟩ : EBlock))) := by
  obtain ⟨h0, _, hf, ho⟩ := Run.run_stored o key kvs files coin ld hcoin hld hkey sz blk hs hne
    (by simp [Run.callbackPanics, hcb])
  refine ⟨h0, ?_, ?_⟩
  · rw [hf]; simp only [Run.callbackOut, hcb]
  · rw [ho]; simp only [Run.callbackOut, hcb]

/-- fork coins print well-formed UTF-8 payloads exactly: on every string accepted by Unicode's Table 3-7 (`L.valid`), the
    lossy decoder is the identity — U+FFFD appears only where the bytes are ill-formed.  (That `L.valid` agrees with Rust's
    `from_utf8` — and with core Lean's `validateUTF8`, an independent implementation — is checked by the `utf8` family of the
    correspondence on adversarial strings.) -/
theorem lossy_valid_id (p : Bytes) (h : L.valid p = true) : L.lossy p = p := L.lossy_of_valid p h

/-- **what `valid UTF-8` means.**  The recogniser used on the Bitcoin path accepts a byte string iff it is the concatenation
    of the UTF-8 encodings (1 to 4 bytes, RFC 3629) of Unicode scalar values — code points below 0x110000 outside the surrogate
    range 0xD800..0xDFFF; overlong forms, surrogates and values above 0x10FFFF are thereby excluded -/
theorem valid_iff_scalar_encoding (p : Bytes) :
    L.valid p = true ↔ ∃ cs : List Nat, (∀ c ∈ cs, L.scalar c) ∧ p = cs.flatMap L.enc :=
  L.valid_iff_encoding p

/-- whatever the payload, what a fork coin prints is well-formed UTF-8, and it is the payload itself exactly when the payload
    is well-formed -/
theorem lossy_output_valid (p : Bytes) : L.valid (L.lossy p) = true ∧ (L.lossy p = p ↔ L.valid p = true) :=
  ⟨L.valid_lossy p, fun h => h ▸ L.valid_lossy p, L.lossy_of_valid p⟩

/-- non-vacuity: "é€😀" (2-, 3- and 4-byte sequences) is accepted; a lone continuation byte and an overlong "/" are not -/
example : L.valid [0xC3, 0xA9, 0xE2, 0x82, 0xAC, 0xF0, 0x9F, 0x98, 0x80] = true ∧ L.valid [0x80] = false ∧ L.valid [0xC0, 0xAF] = false := by
  refine ⟨?_, ?_, ?_⟩ <;> simp +decide [L.valid, L.second]

/-- non-vacuity: the 76..80 byte range needs PUSHDATA1 and is well-formed there, not as a direct push -/
example : (T.Tok.push .pd1 (List.replicate 80 0x41)).WF ∧ ¬ (T.Tok.push .direct (List.replicate 80 0x41)).WF := by
  simp [T.Tok.WF, T.Form.width]

/-- **every input.**  Whenever an `opreturn` run exits 0, what it printed is `opreturnLines` over exactly the delivered blocks, in
    chain order (no file is written) -/
theorem exit0_lines_are_those_of_delivered (o : Run.Opts) (key : Option W.Bytes) (kvs : List (W.Bytes × W.Bytes)) (files : List Run.BlkFile)
    (coin : Run.Coin) (hcoin : Run.coinOf o.coin = some coin) (hcb : o.callback = "opreturn")
    (h0 : (Run.run o key kvs files).exit = 0) :
    (Run.run o key kvs files).stdout = opreturnLines coin.version (Run.deliveredBlocks o key kvs files) ∧
    (Run.run o key kvs files).files = [] := by
  obtain ⟨hf, hs⟩ := Rbp.Props.C10.exit0_output_is_callback_over_delivered o key kvs files coin hcoin h0
  rw [hf, hs]
  simp [Run.callbackOut, hcb]

end Rbp.Props.C16
