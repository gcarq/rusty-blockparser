import Rbp.Proofs.Utxo
import Rbp.Proofs.Wire
import Rbp.Proofs.RunSpec
import Rbp.Props.C10
/-!
# C07 — unspentcsvdump lists exactly the unspent, address-bearing outputs of the range
-/
namespace Rbp.Props.C07
open Std W CB

/-- the map the callback ends with answers every lookup like "the last operation that mentions the outpoint"
    (operations = per tx: one spend per input, then one creation per address-bearing output; in chain order) -/
theorem fold_eq_spec (ver : UInt8) (bs : List EBlock) (k : Bytes) :
    (utxo ver bs)[k]? = U.lastTouch none k (opsOf ver bs) := by
  rw [utxo_eq_run]; exact U.unspent_from_empty _ k

/-- declarative reading: an outpoint is listed with value `v` iff some transaction of the range created it with an
    address and nothing later in the range (later in the same block included) spends or re-creates it;
    a later creation of the same outpoint replaces the earlier one -/
theorem listed_iff (ver : UInt8) (bs : List EBlock) (k : Bytes) (v : Unspent) :
    (utxo ver bs)[k]? = some v ↔
      ∃ pre post, opsOf ver bs = pre ++ U.Op.create k v :: post ∧ ∀ o ∈ post, o.key ≠ k := by
  rw [fold_eq_spec, U.lastTouch_iff]
  exact or_iff_left fun h => nomatch h.1

/-- the key (txid ‖ LE32 index) determines the outpoint: nothing is merged, nothing is listed under a wrong txid/index -/
theorem key_injective (t t' : Bytes) (i i' : Nat) (ht : t.length = 32) (ht' : t'.length = 32)
    (hi : i < 2^32) (hi' : i' < 2^32) (h : key t i = key t' i') : t = t' ∧ i = i' := by
  unfold key at h
  rw [Nat.mod_eq_of_lt hi, Nat.mod_eq_of_lt hi'] at h
  have := List.append_inj h (by rw [ht, ht'])
  refine ⟨this.1, ?_⟩
  have h1 := le_toLE 4 i (by simpa using hi)
  have h2 := le_toLE 4 i' (by simpa using hi')
  rw [this.2] at h1
  omega

/-- txid and index are recovered from the key exactly as `on_complete` does (`key[0..32]`, LE32 of the rest) -/
theorem key_recover (t : Bytes) (i : Nat) (ht : t.length = 32) (hi : i < 2^32) :
    (key t i).take 32 = t ∧ le ((key t i).drop 32) = i := by
  unfold key
  rw [Nat.mod_eq_of_lt hi]
  constructor
  · rw [← ht]; simp
  · rw [← ht]; simp; exact le_toLE 4 i (by simpa using hi)

/-- nothing is listed twice: the rows come from the bindings of a map, whose keys are pairwise distinct -/
theorem rows_distinct_keys (m : HashMap Bytes Unspent) : m.toList.Pairwise (fun a b => (a.1 == b.1) = false) :=
  HashMap.distinct_keys_toList

/-- and every binding of the map is a row (`(k, v) ∈ toList ↔ m[k]? = some v`) -/
theorem row_iff_binding (m : HashMap Bytes Unspent) (k : Bytes) (v : Unspent) :
    (k, v) ∈ m.toList ↔ m[k]? = some v :=
  HashMap.mem_toList_iff_getElem?_eq_some

/-- an outpoint the range never created is not listed, whatever spends it -/
theorem unknown_outpoint_not_listed (ver : UInt8) (bs : List EBlock) (k : Bytes)
    (h : ∀ o ∈ opsOf ver bs, ∀ v, o ≠ U.Op.create k v) : (utxo ver bs)[k]? = none := by
  cases hv : (utxo ver bs)[k]? with
  | none => rfl
  | some v =>
    obtain ⟨pre, post, he, _⟩ := (listed_iff ver bs k v).mp hv
    exact absurd rfl (h (U.Op.create k v) (by rw [he]; simp) v)

/-- the dump never has more rows than address-bearing outputs were created in the range: a spend only removes, a creation adds
    at most one row (a repeated outpoint — the duplicate coinbases of BIP30 fame — replaces) -/
theorem rows_bounded_by_creations (ver : UInt8) (bs : List EBlock) :
    (utxo ver bs).size ≤ U.creates (opsOf ver bs) := by
  rw [utxo_eq_run]
  simpa using U.run_size_le (opsOf ver bs) (∅ : HashMap Bytes Unspent)

/-- **whole run.**  For a stored chain (every height of the range holds a well-formed block where its record says),
    `unspentcsvdump` exits 0 and writes one file `unspent-start-maxH.csv`: the header followed by one row per binding of the
    map of `fold_eq_spec` / `listed_iff` over exactly the delivered blocks (txid, index, creation height, value, address);
    the summary counts transactions, inputs and the address-bearing outputs inserted -/
theorem unspent_run_spec (o : Run.Opts) (key : Option Bytes) (kvs : List (Bytes × Bytes)) (files : List Run.BlkFile)
    (coin : Run.Coin) (ld : Run.Loaded) (hcoin : Run.coinOf o.coin = some coin) (hld : Run.loadIndex o kvs = .ok ld)
    (hkey : key ≠ some []) (sz : Nat → Nat) (blk : Nat → W.Block)
    (hs : ∀ k, o.start ≤ k → k < o.start + (ld.maxH + 1 - o.start) →
      Run.Stored coin key (files.filterMap fun f => (Run.parseBlkIndex f.name).map fun n => (n, f)) ld.trimmed k (sz k) (blk k) ∧
      (o.verify = true → Run.verifyBlock coin ld.trimmed (blk k).toR k = .ok ()))
    (hne : o.start ≤ ld.maxH) (hcb : o.callback = "unspentcsvdump") :
    let bs := (List.range' o.start (ld.maxH + 1 - o.start)).map (fun k => (⟨k, sz k, (blk k).toR⟩ : EBlock))
    (Run.run o key kvs files).exit = 0 ∧
    (Run.run o key kvs files).files =
      [(s!"unspent-{o.start}-{ld.maxH}.csv", "txid;indexOut;height;value;address" :: unspentRows (utxo coin.version bs))] ∧
    (Run.run o key kvs files).stdout = Run.totalsUnspent coin.version bs := by
  intro bs
  obtain ⟨h0, _, hf, ho⟩ := Run.run_stored o key kvs files coin ld hcoin hld hkey sz blk hs hne
    (by simp [Run.callbackPanics, hcb])
  refine ⟨h0, ?_, ?_⟩
  · rw [hf]; simp only [Run.callbackOut, hcb]; rfl
  · rw [ho]; simp only [Run.callbackOut, hcb]; rfl

/-- **every input.**  No hypothesis on the directory: whenever an `unspentcsvdump` run exits 0, its one file is the header line
    followed by one row per binding of the UTXO fold over exactly the blocks that were delivered, named with the start height and
    the last delivered height (with `listed_iff` this is the property's `exactly the unspent, address-bearing outputs`) -/
theorem exit0_dump_is_fold_over_delivered (o : Run.Opts) (key : Option Bytes) (kvs : List (Bytes × Bytes)) (files : List Run.BlkFile)
    (coin : Run.Coin) (hcoin : Run.coinOf o.coin = some coin) (hcb : o.callback = "unspentcsvdump")
    (h0 : (Run.run o key kvs files).exit = 0) :
    (Run.run o key kvs files).files =
      [(s!"unspent-{o.start}-{o.start + (Run.deliveredBlocks o key kvs files).length - 1}.csv",
        "txid;indexOut;height;value;address" :: unspentRows (utxo coin.version (Run.deliveredBlocks o key kvs files)))] := by
  have := (Rbp.Props.C10.exit0_output_is_callback_over_delivered o key kvs files coin hcoin h0).1
  rw [this]
  simp [Run.callbackOut, hcb]

end Rbp.Props.C07
