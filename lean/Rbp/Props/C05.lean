import Rbp.Proofs.Base58Check
import Rbp.Proofs.Bech32Decode
import Rbp.Proofs.Classify
import Rbp.Proofs.Vectors
/-!
# C05 — Bitcoin/testnet3: every output script gets the reference type and address
The rust-bitcoin predicates are modelled by hand in `S`; these theorems relate the model to byte templates.
-/
namespace Rbp.Props.C05
open S

/-- P2PKH predicate ⇔ byte template `76 a9 14 <20 bytes> 88 ac` -/
theorem p2pkh_iff_template (s : Bytes) :
    isP2pkh s = true ↔ ∃ h : Bytes, h.length = 20 ∧ s = [0x76, 0xa9, 0x14] ++ h ++ [0x88, 0xac] := isP2pkh_iff s

/-- P2SH predicate ⇔ byte template `a9 14 <20 bytes> 87` -/
theorem p2sh_iff_template (s : Bytes) :
    isP2sh s = true ↔ ∃ h : Bytes, h.length = 20 ∧ s = [0xa9, 0x14] ++ h ++ [0x87] := isP2sh_iff s

/-- the two templates are disjoint -/
theorem p2pkh_p2sh_disjoint (s : Bytes) : ¬ (isP2pkh s = true ∧ isP2sh s = true) := by
  rintro ⟨h1, h2⟩
  simp only [isP2pkh, isP2sh, decide_eq_true_eq] at h1 h2
  omega

/-- P2PK predicate ⇔ byte template `<0x21|0x41> <33- or 65-byte key> ac` -/
theorem p2pk_iff_template (s k : Bytes) :
    isP2pk s = some k ↔ (k.length = 33 ∨ k.length = 65) ∧ s = UInt8.ofNat k.length :: k ++ [0xac] := isP2pk_iff s k

/-- witness program predicate ⇔ byte template `<OP_0 | OP_1..OP_16> <len> <len bytes>` with 2 ≤ len ≤ 40 -/
theorem witness_iff_template (s : Bytes) (v : Nat) :
    witnessVersion s = some v ↔
      ∃ prog : Bytes, 2 ≤ prog.length ∧ prog.length ≤ 40 ∧ v ≤ 16 ∧
        s = (if v = 0 then 0x00 else UInt8.ofNat (0x50 + v)) :: UInt8.ofNat prog.length :: prog := witnessVersion_iff s v

/-- **every byte string gets the type of the one template it matches.**  For all scripts on both networks: the reported
    type is OP_RETURN iff the first byte is 0x6a; provably unspendable iff (otherwise) the first opcode is of class
    Return/Illegal; P2PK / P2PKH / P2SH iff the script is that byte template; P2WPKH / P2WSH / P2TR iff it is a witness
    program of version 0 with 20 / 32 bytes or version 1 with 32 bytes; WitnessProgram iff any other witness program;
    multisig iff the bare-multisig test holds — and these conditions are pairwise exclusive (each excludes everything the code
    tests before it: `p2pk_excl … multisig_excl`), so the verdict does not depend on the order of the tests in the code -/
theorem type_iff_template (testnet : Bool) (s : Bytes) :
    ((∃ p, (evalBtc testnet s).pattern = .opReturn p) ↔ s.head? = some 0x6a) ∧
    ((evalBtc testnet s).pattern = .unspendable ↔ (s.head? ≠ some 0x6a ∧ unspendableFirst s = true)) ∧
    ((evalBtc testnet s).pattern = .p2pk ↔ ∃ k, isP2pk s = some k) ∧
    ((evalBtc testnet s).pattern = .p2pkh ↔ isP2pkh s = true) ∧
    ((evalBtc testnet s).pattern = .p2sh ↔ isP2sh s = true) ∧
    ((evalBtc testnet s).pattern = .p2wpkh ↔ (s.length = 22 ∧ witnessVersion s = some 0)) ∧
    ((evalBtc testnet s).pattern = .p2wsh ↔ (s.length = 34 ∧ witnessVersion s = some 0)) ∧
    ((evalBtc testnet s).pattern = .p2tr ↔ (s.length = 34 ∧ witnessVersion s = some 1)) ∧
    ((evalBtc testnet s).pattern = .witnessProgram ↔
      ∃ v, witnessVersion s = some v ∧ ¬ (s.length = 22 ∧ v = 0) ∧ ¬ (s.length = 34 ∧ (v = 0 ∨ v = 1))) ∧
    ((evalBtc testnet s).pattern = .multisig ↔ isBareMultisig s = true) := by
  rw [pattern_eq_cascade]
  -- `→`: a verdict is reached only through its own test; `←`: that test excludes all earlier ones
  have hs := cascade_sound s
  have fwd : ∀ p, cascade s = p → Verdict s p := fun p h => h ▸ hs
  refine ⟨⟨fun ⟨p, h⟩ => fwd _ h, fun h => ⟨_, by rw [cascade, if_pos h]⟩⟩,
    ⟨fwd _, fun ⟨h1, h2⟩ => by rw [cascade, if_neg h1, if_pos h2]⟩,
    ⟨fwd _, fun ⟨k, h⟩ => cascade_p2pk s k h⟩, ⟨fwd _, cascade_p2pkh s⟩, ⟨fwd _, cascade_p2sh s⟩,
    ⟨fwd _, fun ⟨a, h⟩ => by simp [cascade_witness s 0 h, a]⟩,
    ⟨fwd _, fun ⟨a, h⟩ => by simp [cascade_witness s 0 h, a]⟩,
    ⟨fwd _, fun ⟨a, h⟩ => by simp [cascade_witness s 1 h, a]⟩,
    ⟨fwd _, fun ⟨v, h, a, b⟩ => by rw [cascade_witness s v h, if_neg a, if_neg (fun c => b ⟨c.1, .inl c.2⟩), if_neg (fun c => b ⟨c.1, .inr c.2⟩)]⟩,
    ⟨fwd _, cascade_multisig s⟩⟩

/-- **bare m-of-n multisig ⇔ template.**  A script passes the bare-multisig test — hence (by `type_iff_template`) is typed
    Pay2MultiSig — exactly when it is `OP_m`, then `n` keys, then `OP_n OP_CHECKMULTISIG` with 1 ≤ m ≤ n ≤ 16 and nothing
    else, a key being any well-formed push (any length, any push form) or OP_0 (which the instruction iterator reports as an
    empty push) -/
theorem multisig_iff_template (s : Bytes) :
    isBareMultisig s = true ↔
      ∃ (m n : Nat) (ks : List T.Tok), 1 ≤ m ∧ m ≤ n ∧ n ≤ 16 ∧ ks.length = n ∧ (∀ k ∈ ks, k.WF ∧ IsKey k) ∧
        s = [UInt8.ofNat (0x50 + m)] ++ ks.flatMap T.Tok.enc ++ [UInt8.ofNat (0x50 + n), 0xae] :=
  ⟨bare_multisig_is_template s, fun ⟨m, n, ks, h1, h2, h3, h4, h5, hs⟩ => hs ▸ template_is_bare_multisig m n ks h1 h2 h3 h4 h5⟩

/-- non-vacuity: 1-of-1 with a 33-byte key -/
example : (T.Tok.push .direct (List.replicate 33 2)).WF := by simp [T.Tok.WF]

/-- the templates exclude one another (stated for the two that share a first byte: a witness program is never a multisig) -/
theorem witness_never_multisig (s : Bytes) (v : Nat) (h : witnessVersion s = some v) : isMultisigLib s = false :=
  witness_not_multisig s v h

/-- reference verdicts: type and address of every canonical template, both networks
    (P2PKH/P2SH: Base58Check of prefix ‖ embedded hash with prefixes 0x00/0x05, testnet 0x6f/0xc4;
     P2PK: the P2PKH form of HASH160(key); P2WPKH/P2WSH: Bech32 v0; P2TR: Bech32m v1, hrp bc/tb) -/
theorem template_verdicts (testnet : Bool) :
    (∀ h : Bytes, h.length = 20 → evalBtc testnet ([0x76, 0xa9, 0x14] ++ h ++ [0x88, 0xac]) = ⟨.p2pkh, some (A.base58check (pkPrefix testnet :: h))⟩) ∧
    (∀ h : Bytes, h.length = 20 → evalBtc testnet ([0xa9, 0x14] ++ h ++ [0x87]) = ⟨.p2sh, some (A.base58check (shPrefix testnet :: h))⟩) ∧
    (∀ k : Bytes, k.length = 33 ∨ k.length = 65 → evalBtc testnet (UInt8.ofNat k.length :: k ++ [0xac]) = ⟨.p2pk, some (A.base58check (pkPrefix testnet :: A.hash160 k))⟩) ∧
    (∀ h : Bytes, h.length = 20 → evalBtc testnet ([0x00, 0x14] ++ h) = ⟨.p2wpkh, some (A.segwitAddr (hrp testnet) 0 h)⟩) ∧
    (∀ h : Bytes, h.length = 32 → evalBtc testnet ([0x00, 0x20] ++ h) = ⟨.p2wsh, some (A.segwitAddr (hrp testnet) 0 h)⟩) ∧
    (∀ h : Bytes, h.length = 32 → evalBtc testnet ([0x51, 0x20] ++ h) = ⟨.p2tr, some (A.segwitAddr (hrp testnet) 1 h)⟩) := by
  refine ⟨fun h hl => ?_, fun h hl => ?_, fun k hl => eval_p2pk_of testnet _ k ((isP2pk_iff _ k).mpr ⟨hl, rfl⟩),
    fun h hl => ?_, fun h hl => ?_, fun h hl => ?_⟩
  · rw [eval_p2pkh_of testnet _ ((isP2pkh_iff _).mpr ⟨h, hl, rfl⟩)]; simp [List.take_left' hl]
  · rw [eval_p2sh_of testnet _ ((isP2sh_iff _).mpr ⟨h, hl, rfl⟩)]; simp [List.take_left' hl]
  · have hw : witnessVersion ([0x00, 0x14] ++ h) = some 0 := by simp [witnessVersion_cons, hl]
    rw [eval_witness testnet _ 0 hw (by simp [hl]), cascade_witness _ 0 hw]; simp [hl]
  · have hw : witnessVersion ([0x00, 0x20] ++ h) = some 0 := by simp [witnessVersion_cons, hl]
    rw [eval_witness testnet _ 0 hw (by simp [hl]), cascade_witness _ 0 hw]; simp [hl]
  · have hw : witnessVersion ([0x51, 0x20] ++ h) = some 1 := by simp [witnessVersion_cons, hl, pushnum]
    rw [eval_witness testnet _ 1 hw (by simp), cascade_witness _ 1 hw]; simp [hl]

/-- **Base58Check addresses decode to their payload.**  What the executed encoder prints for a payload `p` (prefix byte ‖
    hash) is decoded by the reference decoder — alphabet lookup, base 58 → base 256 with leading zeros, last four bytes
    compared with the double-SHA256 of the rest — to exactly `p`: the checksum is valid, the prefix is the network's, the
    hash is the one embedded in the script -/
theorem base58check_decodes (p : Bytes) : A.base58checkDecode (A.base58check p) = some p :=
  A.base58checkDecode_base58check p

/-- **segwit addresses decode to their version and program.**  What the executed encoder prints for (hrp, version < 32,
    program) starts with `hrp ‖ "1"`, its checksum verifies with the constant of its version (Bech32 for 0, Bech32m for 1..16)
    and the reference decoder returns exactly the version and the program bytes -/
theorem segwit_decodes (hrp : String) (ver : Nat) (hv : ver < 32) (prog : Bytes) :
    A.segwitDecode hrp (A.segwitAddr hrp ver prog) = some (ver, prog) :=
  A.segwitDecode_segwitAddr hrp ver hv prog

/-- the checksum alone: for any values and either constant, the six values the model appends make the Bech32 state machine
    end in that constant -/
theorem bech32_checksum_valid (const : Bech.W) (vs : List Nat) :
    Bech.polymod ((vs ++ A.checksum const vs).map (BitVec.ofNat 30)) = const :=
  A.checksum_valid const vs

/-- put together for the canonical templates: the address reported for P2PKH / P2SH / P2PK decodes to the network prefix
    followed by the embedded hash (HASH160 of the key for P2PK); for P2WPKH / P2WSH / P2TR to the witness version and the
    embedded program -/
theorem reported_address_decodes (testnet : Bool) :
    (∀ h : Bytes, h.length = 20 → ∃ a, (evalBtc testnet ([0x76, 0xa9, 0x14] ++ h ++ [0x88, 0xac])).address = some a ∧
        A.base58checkDecode a = some (pkPrefix testnet :: h)) ∧
    (∀ h : Bytes, h.length = 20 → ∃ a, (evalBtc testnet ([0xa9, 0x14] ++ h ++ [0x87])).address = some a ∧
        A.base58checkDecode a = some (shPrefix testnet :: h)) ∧
    (∀ k : Bytes, k.length = 33 ∨ k.length = 65 → ∃ a, (evalBtc testnet (UInt8.ofNat k.length :: k ++ [0xac])).address = some a ∧
        A.base58checkDecode a = some (pkPrefix testnet :: A.hash160 k)) ∧
    (∀ h : Bytes, h.length = 20 → ∃ a, (evalBtc testnet ([0x00, 0x14] ++ h)).address = some a ∧
        A.segwitDecode (hrp testnet) a = some (0, h)) ∧
    (∀ h : Bytes, h.length = 32 → ∃ a, (evalBtc testnet ([0x00, 0x20] ++ h)).address = some a ∧
        A.segwitDecode (hrp testnet) a = some (0, h)) ∧
    (∀ h : Bytes, h.length = 32 → ∃ a, (evalBtc testnet ([0x51, 0x20] ++ h)).address = some a ∧
        A.segwitDecode (hrp testnet) a = some (1, h)) := by
  obtain ⟨t1, t2, t3, t4, t5, t6⟩ := template_verdicts testnet
  refine ⟨fun h hh => ⟨_, by rw [t1 h hh], base58check_decodes _⟩, fun h hh => ⟨_, by rw [t2 h hh], base58check_decodes _⟩,
    fun k hk => ⟨_, by rw [t3 k hk], base58check_decodes _⟩,
    fun h hh => ⟨_, by rw [t4 h hh], segwit_decodes _ 0 (by omega) h⟩,
    fun h hh => ⟨_, by rw [t5 h hh], segwit_decodes _ 0 (by omega) h⟩,
    fun h hh => ⟨_, by rw [t6 h hh], segwit_decodes _ 1 (by omega) h⟩⟩

/-- OP_RETURN and provably unspendable scripts (first opcode of class Return or Illegal) are decided first and never
    carry an address -/
theorem opreturn_unspendable_no_address (testnet : Bool) (b : UInt8) (rest : Bytes) :
    ((evalBtc testnet (0x6a :: rest)).address = none ∧ ∃ p, (evalBtc testnet (0x6a :: rest)).pattern = .opReturn p) ∧
    (b ≠ 0x6a → (classify b = .ret ∨ classify b = .illegal) → evalBtc testnet (b :: rest) = ⟨.unspendable, none⟩) :=
  ⟨by simp [evalBtc], fun hb hc => by
    have : unspendableFirst (b :: rest) = true := by simp [unspendableFirst, hc]
    simp [evalBtc, hb, this]⟩

/-- the network prefixes used above are the published ones -/
theorem prefixes_published :
    pkPrefix false = 0x00 ∧ shPrefix false = 0x05 ∧ pkPrefix true = 0x6f ∧ shPrefix true = 0xc4 ∧ hrp false = "bc" ∧ hrp true = "tb" := by
  decide

/-- rust-bitcoin's instruction iterator on the encoding of any well-formed token list yields exactly its instructions
    (OP_0 as an empty push): the basis of the m-of-n and OP_RETURN verdicts -/
theorem instructions_roundtrip (toks : List T.Tok) (h : ∀ t ∈ toks, t.WF) :
    instrs (toks.flatMap T.Tok.enc) = toks.map (fun t => some (SM.toIns t)) :=
  SM.instrs_enc toks h

/-- **published vectors (tests, not the unbounded claim).**  The model's own SHA-256, RIPEMD-160, Base58Check and Bech32 / Bech32m
    reproduce the NIST and RIPEMD reference digests, the Bitcoin genesis block hash and address, and the BIP173 / BIP350 example
    addresses — checked by the kernel by evaluation (`decide +kernel`), so the correspondence with the code cannot rest on a shared
    mistake in these primitives -/
theorem primitives_match_published_vectors :
    (Sha.hex (Sha.sha256 [0x61, 0x62, 0x63]) = "ba7816bf8f01cfea414140de5dae2223b00361a396177a9cb410ff61f20015ad") ∧
    (Sha.hex (A.ripemd160 [0x61, 0x62, 0x63]) = "8eb208f7e05d987a9b044a8e98c6b087f15a0bfc") ∧
    (A.base58check (0x00 :: A.hash160 (Vec.bytes "04678afdb0fe5548271967f1a67130b7105cd6a828e03909a67962e0ea1f61deb649f6bc3f4cef38c4f35504e51ec112de5c384df7ba0b8d578a4c702b6bf11d5f")) =
      "1A1zP1eP5QGefi2DMPTfTL5SLmv7DivfNa") ∧
    (A.segwitAddr "bc" 0 (Vec.bytes "751e76e8199196d454941c45d1b3a323f1433bd6") = "bc1qw508d6qejxtdg4y5r3zarvary0c5xw7kv8f3t4") ∧
    (A.segwitAddr "bc" 1 (Vec.bytes "79be667ef9dcbbac55a06295ce870b07029bfcdb2dce28d959f2815b16f81798") =
      "bc1p0xlxvlhemja6c4dqv22uapctqupfhlxm9h8z3k2e72q4k9hcz7vqzk5jj0") :=
  ⟨Vec.sha256_nist.1, Vec.ripemd160_reference.2.1, Vec.bitcoin_genesis.2, Vec.segwit_bip_vectors.1, Vec.segwit_bip_vectors.2.2⟩

end Rbp.Props.C05
