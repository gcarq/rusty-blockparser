import Rbp.Model.Driver
import Rbp.Proofs.OpenFiles
/-!
# C17 — open blk files stay bounded by the files overlapping the current height
(logical core; that dropping the reader releases the descriptor is the runtime's — partial)
-/
namespace Rbp.Props.C17
open D

/-- one `get_block`: after delivering height `h`, every file still open holds a block of a height yet to come
    (`h + 1 ≤ maxBy f`), provided the per-file maximum is the greatest height stored in that file -/
theorem open_invariant_step (idx : Index) (maxBy : Nat → Nat) (sp : MaxBySpec idx maxBy) (h : Nat) (r : Rec) (o : Nat → Bool)
    (hi : idx h = some r) (inv : Inv idx maxBy h o) : Inv idx maxBy (h + 1) (stepOpen maxBy o h r) := by
  intro f hf
  unfold stepOpen at hf
  by_cases hfr : f = r.file
  · subst hfr
    exact ⟨Nat.succ_le_of_lt (by simpa using hf), h, r, hi, rfl⟩
  · rw [if_neg hfr] at hf
    obtain ⟨hle, h0, r0, hi0, hf0⟩ := inv f hf
    refine ⟨Nat.lt_of_le_of_ne hle fun heq => ?_, h0, r0, hi0, hf0⟩
    -- `maxBy f = h` is impossible: the record at height `maxBy f` lives in file `f`, but `idx h` lives in `r.file ≠ f`
    obtain ⟨r', hr', hfile⟩ := sp.attained h0 r0 hi0
    rw [hf0, ← heq, hi] at hr'
    exact hfr (hf0.symm.trans (hfile.symm.trans (congrArg (·.file) (Option.some.inj hr').symm)))

/-- every reachable state of the driver loop satisfies the invariant (induction over the loop, any number of heights) -/
theorem open_invariant (idx : Index) (maxBy : Nat → Nat) (sp : MaxBySpec idx maxBy) (n h : Nat) (o : Nat → Bool)
    (inv : Inv idx maxBy h o) : ∃ next, Inv idx maxBy next (runOpen idx maxBy h n o) := by
  induction n generalizing h o with
  | zero => exact ⟨h, inv⟩
  | succ n ih =>
    simp only [runOpen]
    cases hi : idx h with
    | none => exact ⟨h, inv⟩
    | some r => exact ih (h + 1) _ (open_invariant_step idx maxBy sp h r o hi inv)

/-- files whose height spans are pairwise disjoint: at most one file is open at any instant, however many files there are -/
theorem disjoint_constant (idx : Index) (maxBy minBy : Nat → Nat) (next : Nat) (o : Nat → Bool)
    (inv : Inv idx maxBy next o) (hmin : ∀ f, o f = true → minBy f < next)
    (hdisj : ∀ f g, f ≠ g → maxBy f < minBy g ∨ maxBy g < minBy f) :
    ∀ f g, o f = true → o g = true → f = g := by
  intro f g hf hg
  refine Decidable.byContradiction fun hne => ?_
  have h1 := (inv f hf).1
  have h2 := (inv g hg).1
  have m1 := hmin f hf
  have m2 := hmin g hg
  rcases hdisj f g hne with h | h <;> omega

/-- the empty open set satisfies the invariant (start of every run) -/
theorem init_inv (idx : Index) (maxBy : Nat → Nat) (s : Nat) : Inv idx maxBy s (fun _ => false) := by
  intro f hf; cases hf

/-- the same invariant on the *executed* whole-program model: for every run whose index loaded, in every state the driver
    loop can stop in (all heights done, a gap, a read or verification error at some height), each blk file whose reader is
    still open holds a block of a height at or above the next height to deliver -/
theorem open_invariant_run (coin : Run.Coin) (o : Run.Opts) (key : Option W.Bytes) (files : List (Nat × Run.BlkFile))
    (kvs : List (W.Bytes × W.Bytes)) (ld : Run.Loaded) (hld : Run.loadIndex o kvs = .ok ld) (n : Nat) :
    Run.OpenInv ld.full (o.start + (Run.driveLoop coin o key files ld.full ld.trimmed o.start n [] [] []).blocks.length)
      (Run.driveLoop coin o key files ld.full ld.trimmed o.start n [] [] []).openSet := by
  have h := Run.driveLoop_spans coin o key files ld.full ld.trimmed (Run.loadIndex_nodup hld)
    (Run.loadIndex_sub hld) n o.start [] [] [] ⟨List.nodup_nil, fun _ hf => nomatch hf⟩
  rw [← Run.driveLoop_blocks_eq] at h
  exact h.openInv

/-- **the bound on the executed whole-program model.**  For every run whose index loaded, in every state the driver loop can
    stop in: the list of open blk files has no duplicates; each open file's height span contains the next height to deliver
    (it stores a block at or below it and one at or above it) — so the number of open files is at most the number of files
    whose spans overlap the current height; and when the files' height spans are pairwise disjoint at most ONE file is open,
    however many thousand files the directory has. -/
theorem open_bound_run (coin : Run.Coin) (o : Run.Opts) (key : Option W.Bytes) (files : List (Nat × Run.BlkFile))
    (kvs : List (W.Bytes × W.Bytes)) (ld : Run.Loaded) (hld : Run.loadIndex o kvs = .ok ld) (n : Nat) :
    let d := Run.driveLoop coin o key files ld.full ld.trimmed o.start n [] [] []
    d.openSet.Nodup ∧
    (∀ f ∈ d.openSet, (∃ h r, h ≤ o.start + d.blocks.length ∧ (h, r) ∈ ld.full ∧ r.file = f) ∧
                       (∃ h r, o.start + d.blocks.length ≤ h ∧ (h, r) ∈ ld.full ∧ r.file = f)) ∧
    (Run.DisjointSpans ld.full → d.openSet.length ≤ 1) := by
  have hnd := Run.loadIndex_nodup hld
  have inv := Run.driveLoop_spans coin o key files ld.full ld.trimmed hnd (Run.loadIndex_sub hld) n o.start [] [] []
    ⟨List.nodup_nil, fun _ hf => nomatch hf⟩
  rw [← Run.driveLoop_blocks_eq] at inv
  exact ⟨inv.1, inv.2, inv.length_le_one hnd⟩

end Rbp.Props.C17
