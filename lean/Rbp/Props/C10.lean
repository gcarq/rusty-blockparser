import Rbp.Model.Output
import Rbp.Proofs.Faults
import Rbp.Proofs.Mono
import Rbp.Proofs.Record
import Rbp.Proofs.OutputCsv
/-!
# C10 — exit status 0 means complete, final-named output; any failure leaves none
(logical core of one output file (`O`) and of several written in any interleaving (`ON`): BufWriter with capacity rule, byte
budget as the write-fault parameter, explicit flush, rename, drop.  Atomicity of rename(2) and the page cache of a killed process
are assumptions — partial.)
-/
namespace Rbp.Props.C10
open O

/-- for every buffer capacity, every byte budget (write failure at any point, including the final buffered flush) and every
    sequence of rows: success ⇒ the file is renamed and holds exactly all rows; a reported failure ⇒ it was never renamed -/
theorem exit0_complete_fault_no_final (cap budget : Nat) (chunks : List Bytes) :
    let s := exec (init cap budget) (fixedProg chunks)
    (s.ok = true → s.renamed = true ∧ s.w.disk = chunks.flatten ∧ s.w.buf = []) ∧
    (s.ok = false → s.renamed = false) := by
  have h := ON.final_n 1 cap (fun _ => budget) (chunks.map fun d => (0, d))
  rw [exec_eq_proj, fixedProg_emb]
  exact ⟨fun hok => (h.1 hok 0 Nat.one_pos).imp_right (.imp_left (·.trans (content_single chunks))), fun hok => h.2 hok 0⟩

/-- after ANY prefix of the program (= a SIGKILL at any instant) a file visible under its final name is complete -/
theorem no_partial_final_at_any_instant (cap budget : Nat) (chunks : List Bytes) (k : Nat) :
    let s := exec (init cap budget) ((fixedProg chunks).take k)
    s.renamed = true → s.w.disk = chunks.flatten ∧ s.w.buf = [] :=
  fixed_no_partial_instant cap budget chunks k

/-- the order the code had before the repair (rename, then the buffered rows reach the file when the writer is dropped)
    violates both clauses — kept as a regression witness -/
theorem old_order_refuted :
    (let s := exec (init 10 1000) ((oldProg [bytes 3]).take 2); s.renamed = true ∧ s.w.disk ≠ bytes 3) ∧
    (let s := exec (init 10 2) (oldProg [bytes 3]); s.ok = true ∧ s.renamed = true ∧ s.w.disk ≠ bytes 3) :=
  ⟨old_partial_instant, old_truncated_exit0⟩

/-- **input faults, whole run.**  If the heights before `k` can be served and height `k` of the range cannot — its blk file
    is missing, or the block cannot be read at the recorded offset (file emptied, truncated inside the block, offset past the
    end), or `--verify` rejects it — the process exits 1, reports exactly height `k`, has delivered exactly `start..k-1`, and
    no final-named output file exists: `on_complete`, the only place where files are renamed, is never reached. -/
theorem input_fault_no_final (o : Run.Opts) (key : Option W.Bytes) (kvs : List (W.Bytes × W.Bytes)) (files : List Run.BlkFile)
    (coin : Run.Coin) (ld : Run.Loaded) (hcoin : Run.coinOf o.coin = some coin) (hld : Run.loadIndex o kvs = .ok ld)
    (hfiles : (files.filterMap fun f => (Run.parseBlkIndex f.name).map fun n => (n, f)) ≠ [])
    (hkey : key ≠ some []) (k : Nat) (m : String) (hk1 : o.start ≤ k) (hk2 : k ≤ ld.maxH)
    (hf : Run.FailsAt coin o key (files.filterMap fun f => (Run.parseBlkIndex f.name).map fun n => (n, f)) ld.trimmed k m)
    (hs : ∀ j, o.start ≤ j → j < k →
      Run.Servable coin o key (files.filterMap fun f => (Run.parseBlkIndex f.name).map fun n => (n, f)) ld.trimmed j) :
    (Run.run o key kvs files).exit = 1 ∧ (Run.run o key kvs files).errHeight = some k ∧ (Run.run o key kvs files).msg = m ∧
    (Run.run o key kvs files).files = [] ∧ (Run.run o key kvs files).delivered = List.range' o.start (k - o.start) := by
  obtain ⟨bs, hbs, hsc⟩ := Run.scan_stop (n := ld.maxH + 1 - o.start) _ (·.height) id hk1 (by omega)
    (fun j h1 h2 => (hs j h1 h2).serve) hf.serve
  rw [Run.run_eq_report hcoin hld hfiles hkey, hsc]
  simp only [Run.report, hbs, List.map_id_fun, id, and_self]

/-- **truncation at any byte is such a fault.**  If from `offset-4` on the file holds only a strict prefix of
    `LE32 size ‖ encoding of a well-formed block` — cut at any byte of the length prefix or of the block, or nothing at all —
    the read fails; it can never produce some other, shorter block (the readers are monotone and consume an encoding exactly) -/
theorem truncated_block_is_fault (coin : Run.Coin) (size : Nat) (hs : size < 256 ^ 4) (b : W.Block) (hb : b.ok coin.auxpow)
    (pre suf : W.Bytes) (he : W.toLE 4 size ++ b.enc = pre ++ suf) (hsuf : suf ≠ []) :
    Run.parseAt coin pre = .err "Unable to read block: failed to fill whole buffer" ∧
    Run.parseAt coin [] = .err "Unable to read block: failed to fill whole buffer" := by
  have hm : W.Mono (Run.sized coin.auxpow) :=
    (W.mono_readLE 4).andThen fun _ => (W.mono_readBlockCoin _).andThen fun _ => .pure _
  exact ⟨by rw [Run.parseAt_eq, W.strict_prefix_fails hm (Run.sized_enc coin.auxpow size hs b hb) he hsuf],
    by simp [Run.parseAt, W.readLE, W.take]⟩

/-- **several output files (csvdump writes four).**  `n` buffered writers, rows written in ANY interleaving, then every writer
    flushed, then every file renamed, then the writers dropped; per-file byte budgets (any write may fail, the final flush
    included): success ⇒ every file is renamed and holds exactly its content with nothing left in a buffer; a reported
    failure ⇒ NO file was renamed -/
theorem exit0_complete_fault_no_final_n (n cap : Nat) (budget : Nat → Nat) (writes : List (Nat × Bytes)) :
    let s := ON.exec (ON.init cap budget) (ON.prog n writes)
    (s.ok = true → ∀ i, i < n → s.renamed i = true ∧ (s.ws i).disk = ON.content i writes ∧ (s.ws i).buf = []) ∧
    (s.ok = false → ∀ i, s.renamed i = false) :=
  ON.final_n n cap budget writes

/-- after ANY prefix of that program (a SIGKILL at any instant), every file visible under its final name is complete -/
theorem no_partial_final_at_any_instant_n (n cap : Nat) (budget : Nat → Nat) (writes : List (Nat × Bytes)) (k : Nat) :
    let s := ON.exec (ON.init cap budget) ((ON.prog n writes).take k)
    ∀ i, i < n → s.renamed i = true → (s.ws i).disk = ON.content i writes ∧ (s.ws i).buf = [] :=
  ON.no_partial_instant_n n cap budget writes k

/-- and the content of the four files in that statement is what C01 says csvdump writes: for the write program of
    `CsvDump::on_block` (block row to file 0; per transaction its row to file 1, its input rows to file 2, its output rows to
    file 3) the content of file `i` is the lines of the `i`-th csv file of the whole-program model, each followed by a newline -/
theorem csvdump_write_program (ver : UInt8) (start last : Nat) (bs : List CB.EBlock) :
    ((Run.csvFiles ver start last bs).map (·.2)) =
      [(bs.map fun b => (Csv.rows ver b.size b.height b.blk).1), bs.flatMap (fun b => (Csv.rows ver b.size b.height b.blk).2.1),
       bs.flatMap (fun b => (Csv.rows ver b.size b.height b.blk).2.2.1), bs.flatMap (fun b => (Csv.rows ver b.size b.height b.blk).2.2.2)] ∧
    ON.content 0 (Run.csvWrites ver bs) = (bs.map fun b => (Csv.rows ver b.size b.height b.blk).1).flatMap Run.lineBytes ∧
    ON.content 1 (Run.csvWrites ver bs) = (bs.flatMap fun b => (Csv.rows ver b.size b.height b.blk).2.1).flatMap Run.lineBytes ∧
    ON.content 2 (Run.csvWrites ver bs) = (bs.flatMap fun b => (Csv.rows ver b.size b.height b.blk).2.2.1).flatMap Run.lineBytes ∧
    ON.content 3 (Run.csvWrites ver bs) = (bs.flatMap fun b => (Csv.rows ver b.size b.height b.blk).2.2.2).flatMap Run.lineBytes := by
  refine ⟨by simp [Run.csvFiles, List.flatMap_map], ?_, ?_, ?_, ?_⟩
  · simp only [Run.csvWrites, Run.content_flatMap, (Run.csv_content_block ver _).1, List.flatMap_map]
  · simp only [Run.csvWrites, Run.content_flatMap, (Run.csv_content_block ver _).2.1, List.flatMap_assoc]
  · simp only [Run.csvWrites, Run.content_flatMap, (Run.csv_content_block ver _).2.2.1, List.flatMap_assoc]
  · simp only [Run.csvWrites, Run.content_flatMap, (Run.csv_content_block ver _).2.2.2, List.flatMap_assoc]

/-- **composition.**  Run the four-writer machine on the write program of csvdump over the delivered blocks `bs`, with any
    buffer capacity and any per-file byte budgets.  If it reports success then every file carries its final name and, for
    every `i < 4`, the bytes on disk are exactly the lines of the `i`-th csv file of the whole-program model (`Run.csvFiles`,
    what C01 specifies), each followed by a newline, with nothing left in a buffer; if it reports a failure no file was renamed -/
theorem csvdump_disk_is_model_files (ver : UInt8) (start last : Nat) (bs : List CB.EBlock) (cap : Nat) (budget : Nat → Nat) :
    let s := ON.exec (ON.init cap budget) (ON.prog 4 (Run.csvWrites ver bs))
    (s.ok = true → ∀ i, i < 4 → s.renamed i = true ∧ (s.ws i).buf = [] ∧
      ((Run.csvFiles ver start last bs)[i]?).map (fun (f : String × List String) => f.2.flatMap Run.lineBytes) = some (s.ws i).disk) ∧
    (s.ok = false → ∀ i, s.renamed i = false) := by
  intro s
  have hf := ON.final_n 4 cap budget (Run.csvWrites ver bs)
  obtain ⟨h0, c0, c1, c2, c3⟩ := csvdump_write_program ver start last bs
  refine ⟨fun hok i hi => ?_, hf.2⟩
  obtain ⟨hr, hd, hb⟩ := hf.1 hok i hi
  refine ⟨hr, hb, ?_⟩
  -- the lines of the `i`-th file are the `i`-th entry of the list `csvdump_write_program` gives; unfolding `csvFiles` per case is slow
  have e : ((Run.csvFiles ver start last bs)[i]?).map (fun f => f.2.flatMap Run.lineBytes) =
      (((Run.csvFiles ver start last bs).map (·.2))[i]?).map (·.flatMap Run.lineBytes) := by
    rw [List.getElem?_map, Option.map_map]; rfl
  rw [e, h0, hd]
  match i, hi with
  | 0, _ => exact congrArg some c0.symm
  | 1, _ => exact congrArg some c1.symm
  | 2, _ => exact congrArg some c2.symm
  | 3, _ => exact congrArg some c3.symm

/-- **whole-program model, every input.**  Whatever the options, key, index content and blk files are: if the run's exit
    status is not 0 — unknown coin, index that does not load, no blk file, unreadable or rejected block at any height, a panic
    in the parser or in a callback — it produced NO final-named file; and a rejected option pair produces none either -/
theorem nonzero_exit_no_final_files (o : Run.Opts) (key : Option W.Bytes) (kvs : List (W.Bytes × W.Bytes)) (files : List Run.BlkFile) :
    ((Run.run o key kvs files).exit ≠ 0 → (Run.run o key kvs files).files = []) ∧
    ((Run.main o key kvs files).exit ≠ 0 → (Run.main o key kvs files).files = []) := by
  have hrun : (Run.run o key kvs files).exit ≠ 0 → (Run.run o key kvs files).files = [] := by
    obtain ⟨c, m, _, h⟩ | ⟨coin, ld, evs, _, _, h⟩ := Run.run_cases o key kvs files <;> rw [h]
    · exact fun _ => rfl
    · rcases Run.report_out o coin.version _ evs with h | h
      · exact fun _ => h.2
      · exact fun h0 => absurd h.1 h0
  refine ⟨hrun, ?_⟩
  unfold Run.main
  split
  · intro _; rfl
  · exact hrun

/-- every callback, every input: on exit status 0 the files and the standard output are the callback's result over ALL delivered
    blocks (unspent dump and balances: header + one row per binding of the UTXO fold; opreturn: its lines; simplestats: its report) -/
theorem exit0_output_is_callback_over_delivered (o : Run.Opts) (key : Option W.Bytes) (kvs : List (W.Bytes × W.Bytes)) (files : List Run.BlkFile)
    (coin : Run.Coin) (hcoin : Run.coinOf o.coin = some coin) (h0 : (Run.run o key kvs files).exit = 0) :
    (Run.run o key kvs files).files =
      (Run.callbackOut o coin.version (o.start + (Run.deliveredBlocks o key kvs files).length - 1) (Run.deliveredBlocks o key kvs files)).1 ∧
    (Run.run o key kvs files).stdout =
      (Run.callbackOut o coin.version (o.start + (Run.deliveredBlocks o key kvs files).length - 1) (Run.deliveredBlocks o key kvs files)).2 := by
  obtain ⟨c, m, hc, h⟩ | ⟨coin', ld, evs, hc', hl, h⟩ := Run.run_cases o key kvs files
  · rw [h] at h0
    exact absurd h0 hc
  · cases hcoin.symm.trans hc'
    rw [h] at h0
    rw [Run.deliveredBlocks_eq hcoin hl, h]
    rcases Run.report_out o coin.version _ evs with h | h
    · exact absurd h0 h.1
    · exact h.2

/-- **exit status 0 means complete output, for every input.**  Whatever the directory holds: if csvdump's run exits 0, its
    four files are exactly the rows of ALL the blocks that were delivered to the callback (`Run.deliveredBlocks`), named with
    the start height and the last delivered height — never a prefix of them -/
theorem exit0_files_are_all_delivered_rows (o : Run.Opts) (key : Option W.Bytes) (kvs : List (W.Bytes × W.Bytes)) (files : List Run.BlkFile)
    (coin : Run.Coin) (hcoin : Run.coinOf o.coin = some coin) (hcb : o.callback = "csvdump")
    (h0 : (Run.run o key kvs files).exit = 0) :
    (Run.run o key kvs files).files =
      Run.csvFiles coin.version o.start (o.start + (Run.deliveredBlocks o key kvs files).length - 1) (Run.deliveredBlocks o key kvs files) ∧
    (Run.run o key kvs files).delivered = (Run.deliveredBlocks o key kvs files).map (·.height) := by
  obtain ⟨hf, _⟩ := exit0_output_is_callback_over_delivered o key kvs files coin hcoin h0
  refine ⟨by rw [hf]; simp only [Run.callbackOut, hcb], ?_⟩
  obtain ⟨c, m, hc, h⟩ | ⟨coin', ld, evs, hc', hl, h⟩ := Run.run_cases o key kvs files
  · rw [h] at h0
    exact absurd h0 hc
  · cases hcoin.symm.trans hc'
    rw [Run.deliveredBlocks_eq hcoin hl, h, Run.report_delivered]

/-- non-vacuity: two files, the second one's final flush fails: nothing is renamed, not even the first file -/
example : (ON.exec (ON.init 10 (fun i => if i = 0 then 100 else 2)) (ON.prog 2 [(0, bytes 3), (1, bytes 3)])).ok = false ∧
    (ON.exec (ON.init 10 (fun i => if i = 0 then 100 else 2)) (ON.prog 2 [(0, bytes 3), (1, bytes 3)])).renamed 0 = false := by decide

/-- non-vacuity: a run whose budget is exhausted by the final flush -/
example : (exec (init 10 4) (fixedProg [bytes 3, bytes 3])).ok = false ∧ (exec (init 10 4) (fixedProg [bytes 3, bytes 3])).renamed = false := by decide

end Rbp.Props.C10
