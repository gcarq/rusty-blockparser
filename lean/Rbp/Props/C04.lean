import Rbp.Proofs.Index
import Rbp.Proofs.EndToEnd
import Rbp.Generated.Consts
import Rbp.Proofs.KeyOrder
/-!
# C04 — only active-chain blocks are delivered; stale and header-only records never are
Stated for the index as the repaired code builds it (records with data and no FAILED bit, keyed by hash; tip = highest
fully validated record; prev-hash links followed from the tip).
-/
namespace Rbp.Props.C04
open Run Wk

/-- walking prev-links from the tip of a well-formed chain through a table with pairwise distinct hashes yields exactly the
    chain, top down, whatever other records (stale siblings, failed blocks, reorged-out branches, …) the table holds -/
theorem walk_eq_active (A : Nat → Rec) (k : Nat) (l : List Rec) (fuel : Nat)
    (hnd : (l.map (·.hash)).Nodup) (hc : Chain A k l) (hf : k < fuel) :
    walk fuel l (A k).hash = (List.range (k + 1)).reverse.map A :=
  walk_chain A k l fuel hnd hc hf

/-- the index that `get_block_index` builds maps exactly the heights `0..T` to the active chain: for every table of
    collected records that contains the chain `A 0 … A T` (linked by prev-hash, record `k` at height `k`, root's parent not a
    key), whose tip is fully validated and above every other fully validated record -/
theorem index_is_active_chain (kvs : List (W.Bytes × W.Bytes)) (recs : List Rec) (A : Nat → Rec) (T : Nat)
    (hc : collect kvs = .ok recs) (hchain : Chain A T recs) (hh : ∀ k, k ≤ T → (A k).height = k)
    (hv : validScripts (A T) = true) (hcomp : ∀ r ∈ recs, validScripts r = true → r = A T ∨ r.height < T) :
    ∃ idx, buildIndex kvs = .ok idx ∧ ∀ h, lookup idx h = if h ≤ T then some (A h) else none :=
  ⟨_, buildIndex_chain kvs recs A T hc hchain hh hv hcomp, fun h => by simp [lookup_range_map, Nat.lt_succ_iff]⟩

/-- competitors are invisible: two key/value sets whose collected tables contain the same active chain (and meet the
    hypotheses) give indexes that answer every height identically — adding or removing header-only, stale, failed or
    reorged-out records, in any key order, changes nothing -/
theorem competitors_invisible (kvs₁ kvs₂ : List (W.Bytes × W.Bytes)) (r₁ r₂ : List Rec) (A : Nat → Rec) (T : Nat)
    (h₁ : collect kvs₁ = .ok r₁) (h₂ : collect kvs₂ = .ok r₂) (c₁ : Chain A T r₁) (c₂ : Chain A T r₂)
    (hh : ∀ k, k ≤ T → (A k).height = k) (hv : validScripts (A T) = true)
    (p₁ : ∀ r ∈ r₁, validScripts r = true → r = A T ∨ r.height < T)
    (p₂ : ∀ r ∈ r₂, validScripts r = true → r = A T ∨ r.height < T) :
    ∃ i₁ i₂, buildIndex kvs₁ = .ok i₁ ∧ buildIndex kvs₂ = .ok i₂ ∧ ∀ h, lookup i₁ h = lookup i₂ h :=
  ⟨_, _, buildIndex_chain kvs₁ r₁ A T h₁ c₁ hh hv p₁, buildIndex_chain kvs₂ r₂ A T h₂ c₂ hh hv p₂, fun _ => rfl⟩

open CB W in
/-- **whole run, from the bytes of the data directory.**  The index key/value pairs come in any order and may contain
    anything besides the active chain: header-only records, stale siblings and failed blocks with data, reorged-out fully
    validated branches below the tip, records under other keys.  If the keys are pairwise distinct, every `b` record is one
    Core could have written, and the active chain `A 0 … A T` is among them (record `k` at height `k`, with data, not failed,
    linked by prev-hash, root's parent not indexed, tip fully validated, every other fully validated record with data lower
    than `T`), and the blk files hold — at the file/offset each ACTIVE record names — the length prefix and the encoding of
    a well-formed block, then for every range, callback, key and `--verify` setting (the chain being consistent when it is
    set): exit 0, exactly the heights `start..min(end,T)` delivered, and files and stdout are the callback's function of the
    active chain's blocks.  No competitor block is ever read: nothing is assumed about what their records point to. -/
theorem active_chain_run (o : Opts) (key : Option Bytes) (kvs : List (Bytes × Bytes)) (files : List BlkFile) (coin : Coin)
    (hcoin : coinOf o.coin = some coin) (hkey : key ≠ some [])
    -- the index: distinct keys, decodable `b` records, an active chain among them
    (hnd : (kvs.map (·.1)).Nodup)
    (hdec : ∀ kv ∈ kvs, kv.1 ≠ [] ∧ (kv.1.head? = some 0x62 →
      ∃ hash r, kv = (0x62 :: hash, Run.IndexRec.enc r) ∧ hash.length = 32 ∧ r.ok))
    (A : Nat → Bytes × Run.IndexRec) (T : Nat)
    (hAok : ∀ k, k ≤ T → (A k).1.length = 32 ∧ (A k).2.ok)
    (hmem : ∀ k, k ≤ T → (0x62 :: (A k).1, (A k).2.enc) ∈ kvs)
    (hh : ∀ k, k ≤ T → (A k).2.height = k)
    (hpass : ∀ k, k ≤ T → passes ((A k).2.toRec (A k).1) = true)
    (hlink : ∀ k, k < T → (A (k + 1)).2.prev = (A k).1)
    (hinj : ∀ i j, i ≤ T → j ≤ T → (A i).1 = (A j).1 → i = j)
    (hroot : ∀ kv ∈ kvs, kv.1 ≠ 0x62 :: (A 0).2.prev)
    (hv : validScripts ((A T).2.toRec (A T).1) = true)
    (hcomp : ∀ hash r, (0x62 :: hash, Run.IndexRec.enc r) ∈ kvs → hash.length = 32 → r.ok → passes (r.toRec hash) = true →
      validScripts (r.toRec hash) = true → r.toRec hash = (A T).2.toRec (A T).1 ∨ r.height < T)
    -- the range
    (E : Nat) (hE : E = (match o.stop with | some e => min e T | none => T)) (hstart : o.start ≤ E)
    -- the blk files: every active block of the range is stored where its record says
    (sz : Nat → Nat) (blk : Nat → W.Block)
    (hplaced : ∀ k, o.start ≤ k → k ≤ E →
      ∃ f rest, ((files.filterMap fun f => (parseBlkIndex f.name).map fun n => (n, f)).find?
          (·.1 == ((A k).2.toRec (A k).1).file)).map (·.2) = some f ∧
        4 ≤ ((A k).2.toRec (A k).1).off ∧
        unxor key (((A k).2.toRec (A k).1).off - 4) (bytesFrom f (((A k).2.toRec (A k).1).off - 4)) =
          toLE 4 (sz k) ++ (blk k).enc ++ rest ∧
        sz k < 256 ^ 4 ∧ (blk k).ok coin.auxpow)
    -- with --verify: the stored blocks form a consistent chain (merkle roots, prev-hash links to the indexed hashes, genesis)
    (hver : o.verify = true → ∀ k, o.start ≤ k → k ≤ E →
      M.rootRust _root_.A.sha256d (txids (blk k).toR) = some (blk k).toR.header.merkle ∧
      (k = 0 → blockHash (blk k).toR = coin.genesis) ∧ (k > 0 → (blk k).toR.header.prev = (A (k - 1)).1))
    -- the callback's own u64 sums stay in range (vacuous for csvdump, unspentcsvdump, opreturn)
    (hnp : callbackPanics o coin.version
      ((List.range' o.start (E + 1 - o.start)).map (fun k => (⟨k, sz k, (blk k).toR⟩ : EBlock))) = false) :
    (run o key kvs files).exit = 0 ∧ (run o key kvs files).delivered = List.range' o.start (E + 1 - o.start) ∧
    (run o key kvs files).files = (callbackOut o coin.version E
      ((List.range' o.start (E + 1 - o.start)).map (fun k => (⟨k, sz k, (blk k).toR⟩ : EBlock)))).1 ∧
    (run o key kvs files).stdout = (callbackOut o coin.version E
      ((List.range' o.start (E + 1 - o.start)).map (fun k => (⟨k, sz k, (blk k).toR⟩ : EBlock)))).2 :=
  Run.run_of_directory o key kvs files coin hcoin hkey hnd hdec A T hAok hmem hh hpass hlink hinj hroot hv hcomp E hE hstart sz blk
    hplaced hver hnp

/-- the block-status constants in the SOURCE TEXT of `index.rs` (re-read on every run) are Bitcoin Core's -/
theorem status_constants_published :
    Generated.statusConsts = [("BLOCK_FAILED_MASK", 96), ("BLOCK_HAVE_DATA", 8), ("BLOCK_HAVE_UNDO", 16),
      ("BLOCK_VALID_MASK", 7), ("BLOCK_VALID_SCRIPTS", 5)] := rfl

/-- and they are the ones the model's status filter and tip test use -/
theorem model_uses_source_constants (r : Rec) :
    passes r = (decide (r.status &&& (Generated.statusConsts.lookup "BLOCK_HAVE_DATA").getD 0 > 0) &&
                (r.status &&& (Generated.statusConsts.lookup "BLOCK_FAILED_MASK").getD 0 == 0)) ∧
    validScripts r = decide (r.status &&& (Generated.statusConsts.lookup "BLOCK_VALID_MASK").getD 0 ≥
                              (Generated.statusConsts.lookup "BLOCK_VALID_SCRIPTS").getD 0) :=
  ⟨rfl, rfl⟩

/-- records without block data or with a FAILED bit never enter the table: the status filter, stated outright -/
theorem filter_spec (r : Rec) : passes r = true ↔ (r.status &&& 8 > 0 ∧ r.status &&& 96 = 0) := by
  simp [passes]

/-- the table has pairwise distinct hashes (a later equal key replaces) -/
theorem table_distinct (kvs : List (W.Bytes × W.Bytes)) (recs : List Rec) (hc : collect kvs = .ok recs) :
    (recs.map (·.hash)).Nodup := collect_nodup kvs recs hc

/-- the walk visits at most as many records as the table holds (visited records are removed): it terminates -/
theorem walk_bounded : ∀ (fuel : Nat) (l : List Rec) (h : Hash), (walk fuel l h).length ≤ fuel
  | 0, _, _ => by simp [walk]
  | fuel+1, l, h => by
    unfold walk
    cases find l h with
    | none => simp
    | some r => simp; exact walk_bounded fuel _ _

/-- the tip at full strength: whichever fully validated record is greatest in `(height, hash)` order is the tip, wherever it sits
    in the table — including when a competing fully validated record has the *same* height (then the greater hash decides, as
    the `max_by_key((height, block_hash))` of the source does; `index_is_active_chain` assumes the competitors strictly lower) -/
theorem tip_is_greatest_validated (t : Rec) (l : List Rec) (hm : t ∈ l) (hv : validScripts t = true)
    (hall : ∀ r ∈ l, validScripts r = true → r = t ∨ tipLt r t = true) : pickTip l = some t :=
  pickTip_greatest t l hm hv hall

/-- the tip with **no hypothesis on the table**: whatever the index holds, the chosen tip is a fully validated record of the
    table and no fully validated record is greater in `(height, hash)` order; and there is no tip (empty chain, nothing
    delivered) exactly when no record is fully validated.  A header-only, stale-but-unvalidated or failed record can therefore
    never be the starting point of the walk, however high it is -/
theorem tip_sound (l : List Rec) :
    (∀ t, pickTip l = some t → t ∈ l ∧ validScripts t = true ∧ ∀ r ∈ l, validScripts r = true → tipLt t r = false) ∧
    (pickTip l = none → ∀ r ∈ l, validScripts r = false) :=
  pickTip_sound l

/-- the tip does not depend on the order of the table — which is the order the 32-byte hashes happen to sort in, i.e. noise:
    for records with pairwise distinct hashes (`table_distinct`), every rearrangement of the table yields the same tip -/
theorem tip_independent_of_table_order (l₁ l₂ : List Rec) (hp : l₁.Perm l₂) (hd : (l₁.map (·.hash)).Nodup) :
    pickTip l₁ = pickTip l₂ :=
  pickTip_perm l₁ l₂ hp hd

/-- non-vacuity: two fully validated records at height 7; the one with the greater hash is picked in either table order -/
example : pickTip [⟨[2], [0], 7, 29, 0, 8⟩, ⟨[1], [0], 7, 29, 0, 90⟩, ⟨[9], [0], 8, 24, 0, 200⟩] = some ⟨[2], [0], 7, 29, 0, 8⟩ ∧
    pickTip [⟨[9], [0], 8, 24, 0, 200⟩, ⟨[1], [0], 7, 29, 0, 90⟩, ⟨[2], [0], 7, 29, 0, 8⟩] = some ⟨[2], [0], 7, 29, 0, 8⟩ := by
  decide

end Rbp.Props.C04
