import Rbp.Proofs.Block
import Rbp.Generated.Consts
import Rbp.Proofs.RunSpec
/-!
# C12 — AuxPoW headers are skipped exactly, leaving block hash and txs unaffected
-/
namespace Rbp.Props.C12
open W Csv Aux

/-- the AuxPoW section (parent coinbase in legacy or segwit form, parent hash, two merkle branches of any length with
    arbitrary masks, parent header) is consumed exactly: the block reader returns the block's own header and txs and
    leaves the rest of the stream untouched -/
theorem auxpow_consumed (thr : Option Nat) (b : Block) (hk : b.ok thr) (rest : Bytes) :
    readBlockAux thr (b.enc ++ rest) = some ((b.toR, b.aux.map AuxPow.toR), rest) :=
  readBlockAux_enc thr b hk rest

/-- transparency: what the reader returns for a block with a section is what it returns, on a coin without AuxPoW,
    for the same block with the section removed — so block hash, tx list and every derived row coincide -/
theorem auxpow_transparent (v : Nat) (b : Block) (hk : b.ok (some v)) (rest : Bytes)
    (hk' : ({ b with aux := none } : Block).ok none) :
    (readBlockCoin (some v) (b.enc ++ rest)).map (·.1) =
      (readBlockCoin none (({ b with aux := none } : Block).enc ++ rest)).map (·.1) := by
  rw [readBlockCoin_enc (some v) b hk rest, readBlockCoin_enc none _ hk' rest]
  simp [Block.toR]

/-- the parsed block does not contain the section at all: whatever AuxPoW section a block carries (or none), the header,
    transaction count and transactions handed to the callbacks are the same -/
theorem parsed_block_ignores_section (b : Block) (a : Option AuxPow) : ({ b with aux := a } : Block).toR = b.toR := rfl

/-- **whole run.**  On Namecoin / Dogecoin (any coin, in fact) the output of a run over stored blocks is a function of the
    parsed blocks `(blk k).toR` only (`Run.run_stored`), and those do not contain the AuxPoW section: two directories whose
    stored blocks differ only in their AuxPoW sections — present or absent as the coin's threshold demands, any parent
    coinbase, any branches and masks — give the same files and the same stdout, for every callback -/
theorem auxpow_run_transparent (o : Run.Opts) (key : Option Bytes) (kvs₁ kvs₂ : List (Bytes × Bytes)) (fs₁ fs₂ : List Run.BlkFile)
    (coin : Run.Coin) (ld₁ ld₂ : Run.Loaded) (hcoin : Run.coinOf o.coin = some coin)
    (hl₁ : Run.loadIndex o kvs₁ = .ok ld₁) (hl₂ : Run.loadIndex o kvs₂ = .ok ld₂) (hmax : ld₁.maxH = ld₂.maxH)
    (hkey : key ≠ some []) (sz : Nat → Nat) (blk₁ blk₂ : Nat → Block)
    (hsame : ∀ k, (blk₁ k).toR = (blk₂ k).toR)
    (hs₁ : ∀ k, o.start ≤ k → k < o.start + (ld₁.maxH + 1 - o.start) →
      Run.Stored coin key (fs₁.filterMap fun f => (Run.parseBlkIndex f.name).map fun n => (n, f)) ld₁.trimmed k (sz k) (blk₁ k) ∧
      (o.verify = true → Run.verifyBlock coin ld₁.trimmed (blk₁ k).toR k = .ok ()))
    (hs₂ : ∀ k, o.start ≤ k → k < o.start + (ld₂.maxH + 1 - o.start) →
      Run.Stored coin key (fs₂.filterMap fun f => (Run.parseBlkIndex f.name).map fun n => (n, f)) ld₂.trimmed k (sz k) (blk₂ k) ∧
      (o.verify = true → Run.verifyBlock coin ld₂.trimmed (blk₂ k).toR k = .ok ()))
    (hne : o.start ≤ ld₁.maxH)
    (hnp : Run.callbackPanics o coin.version
      ((List.range' o.start (ld₁.maxH + 1 - o.start)).map (fun k => (⟨k, sz k, (blk₁ k).toR⟩ : CB.EBlock))) = false) :
    (Run.run o key kvs₁ fs₁).files = (Run.run o key kvs₂ fs₂).files ∧
    (Run.run o key kvs₁ fs₁).stdout = (Run.run o key kvs₂ fs₂).stdout ∧
    (Run.run o key kvs₁ fs₁).exit = 0 ∧ (Run.run o key kvs₂ fs₂).exit = 0 :=
  Run.run_stored_same o key key kvs₁ kvs₂ fs₁ fs₂ coin ld₁ ld₂ hcoin hl₁ hl₂ hmax hkey hkey sz blk₁ blk₂ (fun k _ _ => hsame k)
    hs₁ hs₂ hne hnp

/-- the threshold test is `version ≥ activation version`: equality included, one below excluded; coins without
    an activation version never read a section whatever the version -/
theorem threshold_exact (v version : Nat) :
    (wantsAux (some v) version = true ↔ v ≤ version) ∧ wantsAux none version = false := by
  simp [wantsAux]

/-- activation versions compiled into the binary built from the working tree: namecoin 0x10101, dogecoin 0x620102,
    none for the six other coins -/
theorem thresholds_published :
    Generated.coins.map (fun c => (c.cli, c.auxpow)) =
      [("bitcoin", none), ("testnet3", none), ("namecoin", some 0x10101), ("litecoin", none),
       ("dogecoin", some 0x620102), ("myriadcoin", none), ("unobtanium", none), ("noteblockchain", none)] :=
  rfl

end Rbp.Props.C12
