import Rbp.Model.Driver
import Rbp.Proofs.Driver
import Rbp.Proofs.RunSpec
/-!
# C02 — exactly the blocks of heights start..min(end,tip) are delivered, once, ascending
-/
namespace Rbp.Props.C02
open Run

/-- the whole-program model: when every height of `start..maxH` can be served (record present, file present, block parses,
    verification passes if requested), the run delivers exactly `start, start+1, …, maxH` — ascending, each once — and
    completes: exit 0 for csvdump / unspentcsvdump / opreturn; for simplestats / balances exit 0 unless the callback's own
    u64 arithmetic panics on the delivered values (exit 101; see `Run.callbackPanics`) -/
theorem delivered_eq_range (o : Opts) (key : Option W.Bytes) (kvs : List (W.Bytes × W.Bytes)) (files : List BlkFile)
    (coin : Coin) (ld : Loaded) (hcoin : coinOf o.coin = some coin) (hld : loadIndex o kvs = .ok ld)
    (hfiles : (files.filterMap fun f => (parseBlkIndex f.name).map fun n => (n, f)) ≠ [])
    (hkey : key ≠ some [])
    (hs : ∀ k, o.start ≤ k → k < o.start + (ld.maxH + 1 - o.start) →
      Servable coin o key (files.filterMap fun f => (parseBlkIndex f.name).map fun n => (n, f)) ld.trimmed k) :
    (run o key kvs files).delivered = List.range' o.start (ld.maxH + 1 - o.start) ∧
    ((run o key kvs files).exit = 0 ∨ (run o key kvs files).exit = 101) ∧
    (o.callback ≠ "simplestats" → o.callback ≠ "balances" → (run o key kvs files).exit = 0) := by
  obtain ⟨bs, hbs, hsc⟩ := scan_all _ (·.height) id _ o.start fun j h1 h2 => (hs j h1 h2).serve
  rw [run_eq_report hcoin hld hfiles hkey, hsc]
  simp only [report, hbs, List.map_id_fun, id]
  refine ⟨by split <;> rfl, by split <;> simp, fun h1 h2 => ?_⟩
  have : callbackPanics o coin.version bs = false := by
    unfold callbackPanics
    split
    · exact absurd ‹_› h1
    · exact absurd ‹_› h2
    · rfl
  simp only [this, Bool.false_eq_true, if_false]

/-- **blocks outside the range never contribute to any output.**  Two data directories with the same options whose indexes
    load and end at the same height, and which store the same parsed blocks (and length prefixes) at every height of
    `start..maxH` — whatever they hold at heights outside the range, wherever and however the blocks are stored — produce the
    same exit status, the same files and the same stdout, for every callback -/
theorem outside_range_irrelevant (o : Opts) (key₁ key₂ : Option W.Bytes) (kvs₁ kvs₂ : List (W.Bytes × W.Bytes)) (fs₁ fs₂ : List BlkFile)
    (coin : Coin) (ld₁ ld₂ : Loaded) (hcoin : coinOf o.coin = some coin)
    (hl₁ : loadIndex o kvs₁ = .ok ld₁) (hl₂ : loadIndex o kvs₂ = .ok ld₂) (hmax : ld₁.maxH = ld₂.maxH)
    (hk₁ : key₁ ≠ some []) (hk₂ : key₂ ≠ some []) (sz : Nat → Nat) (blk₁ blk₂ : Nat → W.Block)
    (hsame : ∀ k, o.start ≤ k → k ≤ ld₁.maxH → (blk₁ k).toR = (blk₂ k).toR)
    (hs₁ : ∀ k, o.start ≤ k → k < o.start + (ld₁.maxH + 1 - o.start) →
      Stored coin key₁ (fs₁.filterMap fun f => (parseBlkIndex f.name).map fun n => (n, f)) ld₁.trimmed k (sz k) (blk₁ k) ∧
      (o.verify = true → verifyBlock coin ld₁.trimmed (blk₁ k).toR k = .ok ()))
    (hs₂ : ∀ k, o.start ≤ k → k < o.start + (ld₂.maxH + 1 - o.start) →
      Stored coin key₂ (fs₂.filterMap fun f => (parseBlkIndex f.name).map fun n => (n, f)) ld₂.trimmed k (sz k) (blk₂ k) ∧
      (o.verify = true → verifyBlock coin ld₂.trimmed (blk₂ k).toR k = .ok ()))
    (hne : o.start ≤ ld₁.maxH)
    (hnp : callbackPanics o coin.version
      ((List.range' o.start (ld₁.maxH + 1 - o.start)).map (fun k => (⟨k, sz k, (blk₁ k).toR⟩ : CB.EBlock))) = false) :
    (run o key₁ kvs₁ fs₁).files = (run o key₂ kvs₂ fs₂).files ∧ (run o key₁ kvs₁ fs₁).stdout = (run o key₂ kvs₂ fs₂).stdout ∧
    (run o key₁ kvs₁ fs₁).exit = (run o key₂ kvs₂ fs₂).exit := by
  obtain ⟨a, b, c, d⟩ := run_stored_same o key₁ key₂ kvs₁ kvs₂ fs₁ fs₂ coin ld₁ ld₂ hcoin hl₁ hl₂ hmax hk₁ hk₂ sz blk₁ blk₂ hsame
    hs₁ hs₂ hne hnp
  exact ⟨a, b, c.trans d.symm⟩

/-- option validation (`BlockHeightRange::new`): a range whose `--start` is not below its `--end` is rejected — exit 1, nothing
    delivered, no file — and every accepted range (`--end` absent, or start < end) goes to the run the other theorems are about -/
theorem range_validation (o : Opts) (key : Option W.Bytes) (kvs : List (W.Bytes × W.Bytes)) (files : List BlkFile) :
    (∀ e, o.stop = some e → o.start ≥ e →
      (Run.main o key kvs files).exit = 1 ∧ (Run.main o key kvs files).delivered = [] ∧ (Run.main o key kvs files).files = []) ∧
    ((∀ e, o.stop = some e → o.start < e) → Run.main o key kvs files = run o key kvs files) := by
  constructor
  · intro e he hge
    have : rejected o = true := by simp [rejected, he, hge]
    simp [Run.main, this]
  · intro h
    have : rejected o = false := by
      unfold rejected
      cases hs : o.stop with
      | none => rfl
      | some e => have := h e hs; simp; omega
    simp [Run.main, this]

/-- the upper end is `min(--end, tip)`, and the tip itself when no `--end` is given (both inclusive) -/
theorem upper_end (o : Opts) (kvs : List (W.Bytes × W.Bytes)) (ld : Loaded) (h : loadIndex o kvs = .ok ld) :
    ld.maxH = (match o.stop with
      | some e => min e (ld.full.foldl (fun a p => max a p.1) 0)
      | none => ld.full.foldl (fun a p => max a p.1) 0) :=
  (loadIndex_ok h).2.2.1

/-- trimming the index to the range loses no height of `start-1 .. maxH` (the record `start-1` is what --verify needs) -/
theorem trimmed_keeps_range (o : Opts) (kvs : List (W.Bytes × W.Bytes)) (ld : Loaded) (h : loadIndex o kvs = .ok ld)
    (k : Nat) (hk1 : o.start - 1 ≤ k) (hk2 : k ≤ ld.maxH) : lookup ld.trimmed k = lookup ld.full k :=
  loadIndex_trimmed h k hk1 hk2

/-- the driver loop alone, over an index seen as a partial function: contiguous `0..T` ⇒ exactly `s..min(e,T)` -/
theorem delivered_eq (idx : D.Index) (T s : Nat) (e : Option Nat) (hcontig : ∀ k, k ≤ T → idx k ≠ none) :
    D.delivered idx T s e = List.range' s (D.maxHeight e T + 1 - s) :=
  D.delivered_eq idx T s e hcontig

/-- file names carry `start` and the last processed height -/
theorem file_names (ver : UInt8) (start last : Nat) (bs : List CB.EBlock) :
    (csvFiles ver start last bs).map (·.1) =
      ["blocks", "transactions", "tx_in", "tx_out"].map (fun f => s!"{f}-{start}-{last}.csv") := by
  simp [csvFiles]

/-- per-block outputs: the rows for a list of delivered blocks are the concatenation of the rows of its parts, so the
    result for a range is the corresponding slice of the result for the whole chain -/
theorem slice_csv (ver : UInt8) (s l : Nat) (bs1 bs2 : List CB.EBlock) :
    ((csvFiles ver s l (bs1 ++ bs2)).map (·.2)) =
      List.zipWith (· ++ ·) ((csvFiles ver s l bs1).map (·.2)) ((csvFiles ver s l bs2).map (·.2)) := by
  simp [csvFiles]

/-- the rows of the four csv files for a list of delivered blocks (names aside) -/
def csvRows (ver : UInt8) (bs : List CB.EBlock) : List (List String) := (csvFiles ver 0 0 bs).map (·.2)

theorem csvRows_files (ver : UInt8) (s l : Nat) (bs : List CB.EBlock) : (csvFiles ver s l bs).map (·.2) = csvRows ver bs := by
  simp [csvRows, csvFiles]

/-- **whole-run slice law (csvdump).**  One data directory, two runs of csvdump: `o` over a range and `w` over the whole chain
    (`w.start = 0`).  If both indexes load and every height of the whole chain is stored (in the sense of `Run.Stored`, for the
    index each run loads), both runs exit 0 and each of the four files of the whole-chain run is
    `rows of the heights below the range ++ the file of the ranged run ++ rows of the heights above it` -/
theorem range_run_is_slice (o w : Run.Opts) (key : Option W.Bytes) (kvs : List (W.Bytes × W.Bytes)) (files : List Run.BlkFile)
    (coin : Run.Coin) (ld lw : Run.Loaded) (hco : Run.coinOf o.coin = some coin) (hcw : Run.coinOf w.coin = some coin)
    (hldo : Run.loadIndex o kvs = .ok ld) (hldw : Run.loadIndex w kvs = .ok lw)
    (hkey : key ≠ some []) (sz : Nat → Nat) (blk : Nat → W.Block)
    (hso : ∀ k, o.start ≤ k → k < o.start + (ld.maxH + 1 - o.start) →
      Run.Stored coin key (files.filterMap fun f => (Run.parseBlkIndex f.name).map fun n => (n, f)) ld.trimmed k (sz k) (blk k) ∧
      (o.verify = true → Run.verifyBlock coin ld.trimmed (blk k).toR k = .ok ()))
    (hsw : ∀ k, w.start ≤ k → k < w.start + (lw.maxH + 1 - w.start) →
      Run.Stored coin key (files.filterMap fun f => (Run.parseBlkIndex f.name).map fun n => (n, f)) lw.trimmed k (sz k) (blk k) ∧
      (w.verify = true → Run.verifyBlock coin lw.trimmed (blk k).toR k = .ok ()))
    (hw0 : w.start = 0) (hne : o.start ≤ ld.maxH) (hle : ld.maxH ≤ lw.maxH)
    (hcbo : o.callback = "csvdump") (hcbw : w.callback = "csvdump") :
    let eb := fun k => (⟨k, sz k, (blk k).toR⟩ : CB.EBlock)
    (Run.run o key kvs files).exit = 0 ∧ (Run.run w key kvs files).exit = 0 ∧
    (Run.run w key kvs files).files.map (·.2) =
      List.zipWith (· ++ ·)
        (List.zipWith (· ++ ·) (csvRows coin.version ((List.range' 0 o.start).map eb)) ((Run.run o key kvs files).files.map (·.2)))
        (csvRows coin.version ((List.range' (ld.maxH + 1) (lw.maxH - ld.maxH)).map eb)) := by
  intro eb
  obtain ⟨ho0, _, hfo, _⟩ := Run.run_stored o key kvs files coin ld hco hldo hkey sz blk hso hne (by simp [Run.callbackPanics, hcbo])
  obtain ⟨hw0', _, hfw, _⟩ := Run.run_stored w key kvs files coin lw hcw hldw hkey sz blk hsw (by omega) (by simp [Run.callbackPanics, hcbw])
  refine ⟨ho0, hw0', ?_⟩
  rw [hfo, hfw]
  simp only [Run.callbackOut, hcbo, hcbw, csvRows_files, hw0]
  rw [Run.map_range'_split _ hne hle]
  simp [csvRows, csvFiles, eb]

/-- **whole-run slice law (opreturn).**  Same setting: the lines printed for the whole chain are
    `lines of the heights below the range ++ the lines of the ranged run ++ lines of the heights above it` -/
theorem range_run_is_slice_opreturn (o w : Run.Opts) (key : Option W.Bytes) (kvs : List (W.Bytes × W.Bytes)) (files : List Run.BlkFile)
    (coin : Run.Coin) (ld lw : Run.Loaded) (hco : Run.coinOf o.coin = some coin) (hcw : Run.coinOf w.coin = some coin)
    (hldo : Run.loadIndex o kvs = .ok ld) (hldw : Run.loadIndex w kvs = .ok lw)
    (hkey : key ≠ some []) (sz : Nat → Nat) (blk : Nat → W.Block)
    (hso : ∀ k, o.start ≤ k → k < o.start + (ld.maxH + 1 - o.start) →
      Run.Stored coin key (files.filterMap fun f => (Run.parseBlkIndex f.name).map fun n => (n, f)) ld.trimmed k (sz k) (blk k) ∧
      (o.verify = true → Run.verifyBlock coin ld.trimmed (blk k).toR k = .ok ()))
    (hsw : ∀ k, w.start ≤ k → k < w.start + (lw.maxH + 1 - w.start) →
      Run.Stored coin key (files.filterMap fun f => (Run.parseBlkIndex f.name).map fun n => (n, f)) lw.trimmed k (sz k) (blk k) ∧
      (w.verify = true → Run.verifyBlock coin lw.trimmed (blk k).toR k = .ok ()))
    (hw0 : w.start = 0) (hne : o.start ≤ ld.maxH) (hle : ld.maxH ≤ lw.maxH)
    (hcbo : o.callback = "opreturn") (hcbw : w.callback = "opreturn") :
    let eb := fun k => (⟨k, sz k, (blk k).toR⟩ : CB.EBlock)
    (Run.run w key kvs files).stdout =
      CB.opreturnLines coin.version ((List.range' 0 o.start).map eb) ++ (Run.run o key kvs files).stdout ++
      CB.opreturnLines coin.version ((List.range' (ld.maxH + 1) (lw.maxH - ld.maxH)).map eb) := by
  intro eb
  obtain ⟨_, _, _, hoo⟩ := Run.run_stored o key kvs files coin ld hco hldo hkey sz blk hso hne (by simp [Run.callbackPanics, hcbo])
  obtain ⟨_, _, _, how⟩ := Run.run_stored w key kvs files coin lw hcw hldw hkey sz blk hsw (by omega) (by simp [Run.callbackPanics, hcbw])
  rw [hoo, how]
  simp only [Run.callbackOut, hcbo, hcbw, hw0]
  rw [Run.map_range'_split _ hne hle]
  simp [CB.opreturnLines, eb]

/-- **a range above the tip.**  When `--start` lies above `min(--end, tip)` nothing is delivered: the run completes with exit
    status 0, no block reaches the callback, and csvdump's four files exist under the names `…-start-(start-1).csv` with no rows
    (so exit status 0 still means final-named files and no tmp file, C10) -/
theorem empty_range_run (o : Run.Opts) (key : Option W.Bytes) (kvs : List (W.Bytes × W.Bytes)) (files : List Run.BlkFile)
    (coin : Run.Coin) (ld : Run.Loaded) (hcoin : Run.coinOf o.coin = some coin) (hld : Run.loadIndex o kvs = .ok ld)
    (hfiles : (files.filterMap fun f => (Run.parseBlkIndex f.name).map fun n => (n, f)).isEmpty = false)
    (hkey : key ≠ some []) (habove : ld.maxH < o.start) (hcb : o.callback = "csvdump") :
    (Run.run o key kvs files).exit = 0 ∧ (Run.run o key kvs files).delivered = [] ∧
    (Run.run o key kvs files).files = Run.csvFiles coin.version o.start (o.start - 1) [] := by
  rw [Run.run_eq_report hcoin hld (List.isEmpty_eq_false_iff.mp hfiles) hkey, show ld.maxH + 1 - o.start = 0 by omega]
  simp [Run.report, Run.scan, Run.callbackPanics, Run.callbackOut, hcb]

/-- **every run, no hypothesis on the directory.**  Whatever the options, key, index content and blk files are — readable or not,
    consistent or not — the heights handed to the callback are `start, start+1, …, start+k-1` for some `k` not exceeding the size of
    the requested range: ascending, each exactly once, none below `--start`, none above `min(--end, tip)` -/
theorem every_run_delivers_an_initial_segment (o : Run.Opts) (key : Option W.Bytes) (kvs : List (W.Bytes × W.Bytes)) (files : List Run.BlkFile) :
    ∃ k, (Run.run o key kvs files).delivered = List.range' o.start k ∧
      (∀ ld, Run.loadIndex o kvs = .ok ld → k ≤ ld.maxH + 1 - o.start) := by
  obtain ⟨c, m, _, h⟩ | ⟨coin, ld, evs, _, hl, h⟩ := run_cases o key kvs files
  · exact ⟨0, by rw [h]; rfl, fun _ _ => Nat.zero_le _⟩
  · obtain ⟨k, hk, e⟩ := scan_heights _ (fun j b hb => (serve_inv hb).1) (ld.maxH + 1 - o.start) o.start
    exact ⟨k, by rw [h, report_delivered, e], fun ld' h' => by cases hl.symm.trans h'; exact hk⟩

end Rbp.Props.C02
