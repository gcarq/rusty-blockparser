import Rbp.Model.VarInt
import Rbp.Proofs.Record
import Rbp.Proofs.Layout
import Rbp.Proofs.BlkName
import Rbp.Proofs.Consulted
import Rbp.Proofs.KeyOrder
/-!
# C03 — a block is read from the file and offset its index record names, wherever it is
-/
namespace Rbp.Props.C03
open Run

/-- Bitcoin Core's VarInt (MSB base-128 with the +1 carry), as `index::read_varint` decodes it with both overflow guards:
    the decoder inverts the encoder for every u64 value, whatever follows in the stream -/
theorem readVarInt_enc (n : Nat) (t : List UInt8) (hn : n ≤ 18446744073709551615) :
    VI.dec 0 (VI.enc n ++ t) = .ok n t :=
  VI.dec_enc n t hn

/-- the VarInt code is prefix-free on u64: two encodings followed by anything agree only if value and remainder agree — so the
    six fields of an index value can be cut in exactly one way, and no two different (height, status, file, offset) tuples that
    Core writes share a byte string -/
theorem varint_prefix_free (a b : Nat) (s t : List UInt8) (ha : a ≤ 18446744073709551615) (hb : b ≤ 18446744073709551615)
    (h : VI.enc a ++ s = VI.enc b ++ t) : a = b ∧ s = t := by
  have h1 := VI.dec_enc a s ha
  rw [h, VI.dec_enc b t hb] at h1
  injection h1 with e1 e2
  exact ⟨e1.symm, e2.symm⟩

theorem varint_enc_injective (a b : Nat) (ha : a ≤ 18446744073709551615) (hb : b ≤ 18446744073709551615)
    (h : VI.enc a = VI.enc b) : a = b :=
  (varint_prefix_free a b [] [] ha hb (by rw [h])).1

/-- index records: decoding what Core writes (`nFile` iff HAVE_DATA|HAVE_UNDO, `nDataPos` iff HAVE_DATA, `nUndoPos` iff
    HAVE_UNDO, then the header) gives back hash, height, status, file number, data offset and the header's prev-hash — for
    every status combination and every u64 value, i.e. every byte width of the VarInts -/
theorem record_roundtrip (hash : W.Bytes) (hh : hash.length = 32) (r : IndexRec) (hk : r.ok) :
    decodeRecFull (0x62 :: hash) r.enc =
      .ok ⟨r.client, r.ntx, ⟨hash, r.prev, r.height, r.status,
        if r.status &&& 24 > 0 then r.file else 0, if r.status &&& 8 > 0 then r.dataPos else 0⟩⟩ :=
  Run.record_roundtrip hash hh r hk

/-- positional read: when the bytes at `offset - 4` are the LE32 length prefix followed by the encoding of a well-formed block,
    that block (and that prefix) is what is delivered — whatever follows it in the file -/
theorem readAt_block (coin : Coin) (size : Nat) (hs : size < 256 ^ 4) (b : W.Block) (hb : b.ok coin.auxpow) (rest : W.Bytes) :
    parseAt coin (W.toLE 4 size ++ b.enc ++ rest) = .ok (size, b.toR) :=
  parseAt_block coin size hs b hb rest

/-- and nothing *before* `offset - 4` matters: two files that agree from there on deliver the same result for that offset
    (other blocks, garbage, holes, unindexed blocks in front are invisible) -/
theorem layout_independent_read (coin : Coin) (key : Option W.Bytes) (f g : BlkFile) (off : Nat)
    (h : bytesFrom f (off - 4) = bytesFrom g (off - 4)) : readAt coin key f off = readAt coin key g off := by
  unfold readAt
  rw [h]

/-- the four "magic" bytes in front of a block's length prefix are never consulted: a file holding `pre ++ rest` and one holding
    `pre' ++ rest` (`pre'` as long as `pre`: another coin's magic, zeros, noise, other blocks) read the same at offset `|pre| + 4` -/
theorem magic_never_read (coin : Coin) (key : Option W.Bytes) (name : String) (size : Nat) (pre pre' rest : W.Bytes)
    (h : pre.length = pre'.length) :
    readAt coin key ⟨name, size, [⟨0, pre ++ rest⟩]⟩ (pre.length + 4) = readAt coin key ⟨name, size, [⟨0, pre' ++ rest⟩]⟩ (pre.length + 4) := by
  apply layout_independent_read
  rw [Nat.add_sub_cancel, bytesFrom_append, h, bytesFrom_append]

/-- **a run consults the index values only through the decoded record.**  Replace every value by any other that decodes to the same
    record (hash, prev-hash, height, status, file, offset): the run is the same, observable for observable. -/
theorem index_values_consulted_only_through_decoded_fields (o : Opts) (key : Option W.Bytes) (fs : List BlkFile)
    (f : W.Bytes → W.Bytes → W.Bytes) (hf : ∀ k v, decodeRec k (f k v) = decodeRec k v) (kvs : List (W.Bytes × W.Bytes)) :
    run o key (kvs.map fun p => (p.1, f p.1 p.2)) fs = run o key kvs fs :=
  run_congr_collect o key fs (collect_map f hf kvs)

/-- in particular the version of the node that wrote a record and the record's transaction count are not consulted: re-encoding a
    record with any other (u64) values for the two decodes to the same record -/
theorem node_version_and_tx_count_not_consulted (hash : W.Bytes) (hh : hash.length = 32) (r : IndexRec) (hk : r.ok)
    (c n : Nat) (hc : c < 2^64) (hn : n < 2^64) :
    decodeRec (0x62 :: hash) ({ r with client := c, ntx := n } : IndexRec).enc = decodeRec (0x62 :: hash) r.enc := by
  have hk' : ({ r with client := c, ntx := n } : IndexRec).ok := ⟨hc, hk.2.1, hk.2.2.1, hn, hk.2.2.2.2⟩
  unfold decodeRec
  rw [Run.record_roundtrip hash hh r hk, Run.record_roundtrip hash hh _ hk']

/-- **whole run, same index.**  Two data directories with the same index key/value pairs in which, for every record of the
    index, "the blk file with the record's number, read at the record's offset" yields the same result, produce identical
    runs — every observable including the Opening/Closing trace.  Bytes before `offset-4`, garbage and unindexed blocks
    between blocks, holes, blk files and other directory entries named by no record, and the zero-padding of file names (only
    the parsed number matters) cannot be observed. -/
theorem same_index_same_reads (o : Opts) (k₁ k₂ : Option W.Bytes) (kvs : List (W.Bytes × W.Bytes)) (fs₁ fs₂ : List BlkFile)
    (hk₁ : k₁ ≠ some []) (hk₂ : k₂ ≠ some [])
    (hn₁ : (fs₁.filterMap fun f => (parseBlkIndex f.name).map fun n => (n, f)) ≠ [])
    (hn₂ : (fs₂.filterMap fun f => (parseBlkIndex f.name).map fun n => (n, f)) ≠ [])
    (hf : ∀ coin ld, coinOf o.coin = some coin → loadIndex o kvs = .ok ld → ∀ ht r, lookup ld.trimmed ht = some r →
      fetch coin k₁ (fs₁.filterMap fun f => (parseBlkIndex f.name).map fun n => (n, f)) r =
      fetch coin k₂ (fs₂.filterMap fun f => (parseBlkIndex f.name).map fun n => (n, f)) r) :
    run o k₁ kvs fs₁ = run o k₂ kvs fs₂ :=
  run_same_reads o k₁ k₂ kvs fs₁ fs₂ hk₁ hk₂ hn₁ hn₂ hf

/-- **whole run, any two physical layouts of one logical chain.**  Different index values (file numbers, offsets, VarInt
    widths), different distribution and order of the blocks over blk files: if both indexes load, end at the same height and
    present the same view at every height (same block hash; same result of reading the record's (file, offset)), the two
    runs agree on exit status, error report, delivered heights and hashes, every output file and stdout — for every
    callback, range and `--verify` setting.  (Only the Opening/Closing trace may differ: it is about the files.) -/
theorem layout_independent_run (o : Opts) (k₁ k₂ : Option W.Bytes) (kvs₁ kvs₂ : List (W.Bytes × W.Bytes)) (fs₁ fs₂ : List BlkFile)
    (coin : Coin) (ld₁ ld₂ : Loaded) (hc : coinOf o.coin = some coin)
    (hl₁ : loadIndex o kvs₁ = .ok ld₁) (hl₂ : loadIndex o kvs₂ = .ok ld₂) (hmax : ld₁.maxH = ld₂.maxH)
    (hk₁ : k₁ ≠ some []) (hk₂ : k₂ ≠ some [])
    (hn₁ : (fs₁.filterMap fun f => (parseBlkIndex f.name).map fun n => (n, f)) ≠ [])
    (hn₂ : (fs₂.filterMap fun f => (parseBlkIndex f.name).map fun n => (n, f)) ≠ [])
    (hv : ∀ h, view coin k₁ (fs₁.filterMap fun f => (parseBlkIndex f.name).map fun n => (n, f)) ld₁.trimmed h =
               view coin k₂ (fs₂.filterMap fun f => (parseBlkIndex f.name).map fun n => (n, f)) ld₂.trimmed h) :
    (run o k₁ kvs₁ fs₁).visible = (run o k₂ kvs₂ fs₂).visible := by
  -- the same view at every height gives the same `serve` function, hence the same scan
  rw [run_eq_report hc hl₁ hn₁ hk₁, run_eq_report hc hl₂ hn₂ hk₂, funext (serve_view hv), hmax]
  exact report_visible ..

/-- the zero-padding of file names is immaterial: `blk` + any number of zeros + the decimal number + `.dat` parses to that
    number, for every u64 file number (Core pads to five digits; `blk7.dat`, `blk00007.dat`, `blk0000000007.dat` are one file) -/
theorem blkname_roundtrip (n k : Nat) (hn : n < 2 ^ 64) :
    parseBlkIndex ("blk" ++ String.ofList (List.replicate k '0') ++ toString n ++ ".dat") = some n :=
  Run.blkname_roundtrip n k hn

/-- keys that do not start with `b` never enter the table (`f`, `l`, `F`, `R`, … records are ignored) -/
theorem foreign_keys_ignored (k v : W.Bytes) (b : UInt8) (rest : W.Bytes) (hk : k = b :: rest) (hb : b ≠ 0x62)
    (l : List (W.Bytes × W.Bytes)) (acc : List Wk.Rec) : collect.go ((k, v) :: l) acc = collect.go l acc := by
  subst hk
  simp [collect.go, hb]

/-- the model visits the index in LevelDB's order: `lexLt` (the bytewise comparator) is a strict total order and the visiting
    sequence is ascending in it — a permutation of the pairs (`sortKvs_perm`) that is sorted by key -/
theorem index_visited_in_key_order (kvs : List (W.Bytes × W.Bytes)) :
    (sortKvs kvs).Perm kvs ∧ (sortKvs kvs).Pairwise (fun x y => lexLt y.1 x.1 = false) ∧
    (∀ a b, lexLt a b = true → lexLt b a = false) ∧ (∀ a b c, lexLt a b = true → lexLt b c = true → lexLt a c = true) ∧
    (∀ a b, lexLt a b = false → lexLt b a = false → a = b) :=
  ⟨sortKvs_perm kvs, sortKvs_sorted kvs, lexLt_asymm, lexLt_trans, lexLt_total⟩

/-- **whole program, any physical arrangement of the index database.**  A LevelDB's keys are pairwise distinct; in whatever
    order the same key/value pairs reach the parser (order of `.ldb`/`.log` files, compaction levels, the order in which a
    tool wrote them), the whole run — exit status, report, delivered heights and hashes, every output file, stdout, the
    Opening/Closing trace — is the same, for every option set, XOR key and blk directory -/
theorem index_arrangement_irrelevant (o : Opts) (key : Option W.Bytes) (kvs₁ kvs₂ : List (W.Bytes × W.Bytes)) (fs : List BlkFile)
    (hp : kvs₁.Perm kvs₂) (hd : (kvs₁.map (·.1)).Nodup) : main o key kvs₁ fs = main o key kvs₂ fs :=
  main_order_independent o key kvs₁ kvs₂ fs hp hd

/-- non-vacuity of `index_arrangement_irrelevant`: two arrangements of three distinct keys, one of them foreign -/
example : ([([0x62, 2], [1]), ([0x66, 0], [2]), ([0x62, 1], [3])] : List (W.Bytes × W.Bytes)).Perm
      [([0x62, 1], [3]), ([0x62, 2], [1]), ([0x66, 0], [2])] ∧
    (([([0x62, 2], [1]), ([0x66, 0], [2]), ([0x62, 1], [3])] : List (W.Bytes × W.Bytes)).map (·.1)).Nodup ∧
    sortKvs [([0x62, 2], [1]), ([0x66, 0], [2]), ([0x62, 1], [3])] = [([0x62, 1], [3]), ([0x62, 2], [1]), ([0x66, 0], [2])] := by
  exact ⟨((List.Perm.swap _ _ _).trans ((List.Perm.swap _ _ _).cons _)).symm, by decide, by decide⟩

/-- non-vacuity: both sides of the 1/2-byte VarInt boundary, the 2/3-byte boundary, and the `+1` carry -/
example : VI.dec 0 [0x7f] = .ok 127 [] ∧ VI.dec 0 [0x80, 0x00] = .ok 128 [] ∧ VI.dec 0 [0xff, 0x7f] = .ok 16511 [] ∧
    VI.dec 0 [0x80, 0x80, 0x00] = .ok 16512 [] := by decide

end Rbp.Props.C03
