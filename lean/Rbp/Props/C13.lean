import Rbp.Model.Par
import Rbp.Model.Run
import Rbp.Model.Folder
import Rbp.Props.C08
/-!
# C13 — output depends only on data directory and options, never on scheduling or reruns
(logical core; that rayon's indexed `collect` implements this machine, and that LevelDB's log rewrite keeps the kv
content, are runtime facts covered by the correspondence only — partial)
-/
namespace Rbp.Props.C13
open Par

/-- indexed parallel collect: whatever the completion order — any schedule in which every task runs at least once,
    in any interleaving, with any repetitions — slot `i` ends up holding `f xs[i]`: the result is `xs.map f` in input order -/
theorem parcollect_any_schedule {α β} (f : α → β) (xs : List α) (sched : List Nat)
    (hall : ∀ j, j < xs.length → j ∈ sched) : runSched f xs sched = (xs.map f).map some := by
  apply List.ext_getElem?
  intro j
  rw [runSched, fold_get f xs sched _ (by simp) j]
  rcases Nat.lt_or_ge j xs.length with hj | hj
  · simp [hall j hj]
  · simpa [List.getElem?_eq_none hj] using fun _ => hj

/-- two different schedules give the same vector -/
theorem schedule_independent {α β} (f : α → β) (xs : List α) (s1 s2 : List Nat)
    (h1 : ∀ j, j < xs.length → j ∈ s1) (h2 : ∀ j, j < xs.length → j ∈ s2) :
    runSched f xs s1 = runSched f xs s2 := by
  rw [parcollect_any_schedule f xs s1 h1, parcollect_any_schedule f xs s2 h2]

/-- nested collects (transactions of a block, outputs of a transaction) compose to map-of-map, for any pair of schedules -/
theorem nested_parcollect {α β γ} (g : β → γ) (outs : α → List β) (txs : List α) (sched : List Nat)
    (inner : α → List Nat) (hall : ∀ j, j < txs.length → j ∈ sched)
    (hin : ∀ t, ∀ j, j < (outs t).length → j ∈ inner t) :
    runSched (fun t => runSched g (outs t) (inner t)) txs sched = (txs.map (fun t => ((outs t).map g).map some)).map some := by
  simp only [fun t => parcollect_any_schedule g (outs t) (inner t) (hin t), parcollect_any_schedule _ txs sched hall]

/-- **the two parallel loops of the code, on the model's own functions.**  `Block::new` hashes the transactions of a block in
    a parallel indexed collect, and `EvaluatedTx::new` evaluates the output scripts of each transaction in a nested one.  Run
    as the slot machine above with ANY outer schedule over the transactions and ANY inner schedule per transaction (each
    covering its tasks), the collected structure is exactly what the callbacks of the whole-program model compute sequentially:
    per transaction its txid (`CB.txid`) and, per output in order, the verdict `S.eval ver script` -/
theorem block_evaluation_schedule_independent (ver : UInt8) (txs : List W.RTx) (sched : List Nat) (inner : W.RTx → List Nat)
    (hall : ∀ j, j < txs.length → j ∈ sched) (hin : ∀ t : W.RTx, ∀ j, j < t.outs.length → j ∈ inner t) :
    runSched (fun t => (CB.txid t, runSched (fun o => S.eval ver o.script) t.outs (inner t))) txs sched =
      (txs.map fun t => (CB.txid t, (t.outs.map fun o => S.eval ver o.script).map some)).map some := by
  simp only [fun t : W.RTx => parcollect_any_schedule (fun o => S.eval ver o.script) t.outs (inner t) (hin t),
    parcollect_any_schedule _ txs sched hall]

/-- the whole-program model is a function of (options, xor key, index kv pairs, blk files) alone: equal inputs, equal output.
    (Nothing else — dump-folder content, thread count, time — is an argument of `Run.run`.) -/
theorem model_is_function (o : Run.Opts) (key : Option W.Bytes) (kvs : List (W.Bytes × W.Bytes)) (files : List Run.BlkFile)
    (o' : Run.Opts) (key' : Option W.Bytes) (kvs' : List (W.Bytes × W.Bytes)) (files' : List Run.BlkFile)
    (h1 : o = o') (h2 : key = key') (h3 : kvs = kvs') (h4 : files = files') :
    Run.run o key kvs files = Run.run o' key' kvs' files' := by
  subst h1 h2 h3 h4; rfl

/-- **files already present in the dump folder do not change the result.**  The dump folder as a map from names to contents;
    `File::create` truncates, `rename` replaces.  For the program of a run — create every tmp file, append the rows, rename
    every tmp file to its final name — the contents found afterwards under this run's tmp and final names are the same for
    ANY two initial folders (stale `*.tmp` files of any length and earlier results under the same names included), and every
    other name in the folder is left exactly as it was -/
theorem preexisting_irrelevant (ts fs : List String) (rows : List (String × Fd.Bytes)) (f g : Fd.Folder)
    (hrows : ∀ r ∈ rows, r.1 ∈ ts) (hlen : ts.length = fs.length) :
    (∀ n, n ∈ ts ∨ n ∈ fs → Fd.exec f (Fd.runProg ts rows fs) n = Fd.exec g (Fd.runProg ts rows fs) n) ∧
    (∀ n, n ∉ ts → n ∉ fs → Fd.exec f (Fd.runProg ts rows fs) n = f n) := by
  constructor
  · intro n hn
    rw [Fd.runProg, Fd.exec_append, Fd.exec_append, Fd.exec_append, Fd.exec_append]
    refine Fd.exec_renames _ (· ∈ ts) _ _ (fun n hn => Fd.exec_appends rows _ _ n ?_) (fun p hp => (List.of_mem_zip hp).1) n ?_
    · rw [Fd.exec_creates, Fd.exec_creates, if_pos hn, if_pos hn]
    · rwa [List.map_snd_zip (Nat.le_of_eq hlen.symm)]
  · intro n h1 h2
    apply Fd.exec_untouched
    intro o ho
    simp only [Fd.runProg, List.mem_append, List.mem_map] at ho
    rcases ho with (⟨t, ht, rfl⟩ | ⟨r, hr, rfl⟩) | ⟨p, hp, rfl⟩
    · simp only [Fd.touched, List.mem_singleton]; intro e; exact h1 (e ▸ ht)
    · simp only [Fd.touched, List.mem_singleton]; intro e; exact h1 (e ▸ hrows r hr)
    · simp only [Fd.touched, List.mem_cons, List.not_mem_nil, or_false, not_or]
      have := List.of_mem_zip hp
      exact ⟨fun e => h1 (e ▸ this.1), fun e => h2 (e ▸ this.2)⟩

theorem sumFor_perm (a : String) {l1 l2 : List (String × Nat)} (h : l1.Perm l2) : B.sumFor a l1 = B.sumFor a l2 := by
  simp only [B.sumFor_eq_total]; exact ((h.filter _).map _).sum_nat

theorem occurs_perm (a : String) {l1 l2 : List (String × Nat)} (h : l1.Perm l2) : B.occurs a l1 = B.occurs a l2 := by
  simp only [B.occurs_eq_any]; exact h.any_eq

/-- **row sets of the hash-map dumps.**  The unspent and balances dumps iterate a hash map whose order depends on the hasher's
    per-process random keys; their rows are a function of the map's *content* only: two maps with the same bindings — whatever
    the insertion order, capacity or hash seeds that produced them — yield row lists that are permutations of each other -/
theorem row_sets_depend_on_content_only (m1 m2 : Std.HashMap W.Bytes CB.Unspent) (h : ∀ k : W.Bytes, m1[k]? = m2[k]?) :
    (CB.unspentRows m1).Perm (CB.unspentRows m2) ∧ (CB.balanceRows m1).Perm (CB.balanceRows m2) := by
  have he : m1.Equiv m2 := Std.HashMap.Equiv.of_forall_getElem?_eq h
  have hp := he.toList_perm
  refine ⟨hp.map _, ?_⟩
  -- per-address sums fold over the bindings: a permutation of the bindings gives a map with the same lookups
  have hpp : (Rbp.Props.C08.pairs m1).Perm (Rbp.Props.C08.pairs m2) := hp.map _
  have hb : ∀ a : String, (CB.balanceMap m1)[a]? = (CB.balanceMap m2)[a]? := by
    intro a
    rw [Rbp.Props.C08.balances_spec m1 a, Rbp.Props.C08.balances_spec m2 a, occurs_perm a hpp, sumFor_perm a hpp]
  exact (Std.HashMap.Equiv.of_forall_getElem?_eq hb).toList_perm.map _

/-- non-vacuity: a long stale tmp file and an older result are both replaced -/
example : Fd.exec (fun n => if n = "blocks.csv.tmp" then some (List.replicate 50 7) else if n = "blocks-0-1.csv" then some [1] else none)
    (Fd.runProg ["blocks.csv.tmp"] [("blocks.csv.tmp", [9, 9])] ["blocks-0-1.csv"]) "blocks-0-1.csv" = some [9, 9] := by decide

/-- non-vacuity: three tasks completed in the order 2,0,1 -/
example : runSched (· + 1) [10, 20, 30] [2, 0, 1] = [some 11, some 21, some 31] := by decide

end Rbp.Props.C13
