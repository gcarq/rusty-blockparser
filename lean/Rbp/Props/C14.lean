import Rbp.Proofs.ScriptMachine
import Rbp.Proofs.ScriptMachineBtc
import Rbp.Proofs.RunSpec
/-!
# C14 — no script or witness content can abort a run or disturb other rows
Totality is stated on the panic-site models: every Rust site that can panic is an explicit `.panic` outcome there.
-/
namespace Rbp.Props.C14
open S SM

/-- fork coins: for every version byte and every byte string (any slice Rust can hold: length < 2^63), the evaluator of
    `custom.rs` — modelled with explicit panic outcomes at `bytes[ip]`, `&bytes[ip+1..]`, `&bytes[ip..ip+len]`, `elements[i]`
    and the usize addition `ip + data_len` — never reaches one, and returns the verdict of the structural model -/
theorem evalCustom_total (ver : UInt8) (s : Bytes) (hlen : s.length < 2^63) :
    SM.eval ver s = .ok (evalCustom ver s) :=
  eval_eq ver s hlen

/-- in particular the tokeniser loop: never out of fuel, never out of bounds, and equal to the structural tokeniser;
    `eof` (a push running past the end) is the only failure -/
theorem tokeniser_total (s : Bytes) (hlen : s.length < 2^63) :
    SM.loop s (s.length + 1) 0 [] = (match tokens s with | some t => .ok t | none => .eof) := by
  rw [loop_eq s hlen (s.length + 1) 0 [] (by omega) (by omega)]
  simp only [List.drop_zero, expect]
  cases tokens s <;> simp

/-- `match_stack_pattern` indexes both vectors only below their common length -/
theorem matchPattern_total (els pat : List El) : ∃ b, matchPattern els pat = .ok b :=
  ⟨_, matchPattern_eq els pat⟩

/-- Bitcoin / testnet3: the path through rust-bitcoin, modelled with its panic sites explicit — the `u8` key counter of
    `Script::is_multisig` (behind the repo's instruction-count guard), `bytes[bytes.len() - 2]` in `is_bare_multisig`, and
    `unreachable!()` in `p2pk_to_string` — never reaches one, for every byte string, and returns the structural model's verdict -/
theorem evalBtc_total (testnet : Bool) (s : Bytes) : SMB.evalBtcM testnet s = .ok (evalBtc testnet s) := by
  unfold SMB.evalBtcM evalBtc
  extract_lets
  by_cases h6 : s.head? = some 0x6a
  · rw [if_pos h6, if_pos h6]; rfl
  · rw [if_neg h6, if_neg h6]
    by_cases hu : unspendableFirst s = true
    · rw [if_pos hu, if_pos hu]
    · rw [if_neg hu, if_neg hu]
      cases hk : isP2pk s with
      | some key => simp only [SMB.p2pkKeyM_eq s key hk]
      | none =>
        simp only [SMB.isBareMultisigM_eq]
        cases isBareMultisig s <;> simp only [apply_ite (Out.ok (α := Eval))] <;> rfl

/-- the guard is what makes the counter safe: a script accepted by it has at most 19 instructions, and a script typed
    multisig has at least 3 bytes, so `len - 2` cannot underflow -/
theorem bare_multisig_safe (s : Bytes) : SMB.isBareMultisigM s = .ok (isBareMultisig s) ∧ (isMultisigLib s = true → 3 ≤ s.length) :=
  ⟨SMB.isBareMultisigM_eq s, multisig_len s⟩

/-- **whole run: whatever the scripts and witness items contain, the run completes.**  For every directory whose index loads
    and in which every height of the range stores a well-formed block — and well-formedness constrains only the *lengths* of
    scriptPubKeys, scriptSigs and witness items, never their bytes (`content_free`) — every callback exits 0 and delivers the
    whole range, provided the callback's own u64 sums stay in range (`Run.callbackPanics`: value sums, never script content) -/
theorem any_content_completes (o : Run.Opts) (key : Option W.Bytes) (kvs : List (W.Bytes × W.Bytes)) (files : List Run.BlkFile)
    (coin : Run.Coin) (ld : Run.Loaded) (hcoin : Run.coinOf o.coin = some coin) (hld : Run.loadIndex o kvs = .ok ld)
    (hkey : key ≠ some []) (sz : Nat → Nat) (blk : Nat → W.Block)
    (hs : ∀ k, o.start ≤ k → k < o.start + (ld.maxH + 1 - o.start) →
      Run.Stored coin key (files.filterMap fun f => (Run.parseBlkIndex f.name).map fun n => (n, f)) ld.trimmed k (sz k) (blk k) ∧
      (o.verify = true → Run.verifyBlock coin ld.trimmed (blk k).toR k = .ok ()))
    (hne : o.start ≤ ld.maxH)
    (hnp : Run.callbackPanics o coin.version
      ((List.range' o.start (ld.maxH + 1 - o.start)).map (fun k => (⟨k, sz k, (blk k).toR⟩ : CB.EBlock))) = false) :
    (Run.run o key kvs files).exit = 0 ∧ (Run.run o key kvs files).delivered = List.range' o.start (ld.maxH + 1 - o.start) :=
  ⟨(Run.run_stored o key kvs files coin ld hcoin hld hkey sz blk hs hne hnp).1,
   (Run.run_stored o key kvs files coin ld hcoin hld hkey sz blk hs hne hnp).2.1⟩

/-- csvdump, unspentcsvdump and opreturn have no such sums: they never panic on delivered values -/
theorem no_callback_panic (o : Run.Opts) (ver : UInt8) (bs : List CB.EBlock)
    (h : o.callback = "csvdump" ∨ o.callback = "unspentcsvdump" ∨ o.callback = "opreturn") :
    Run.callbackPanics o ver bs = false := by
  rcases h with h | h | h <;> simp [Run.callbackPanics, h]

/-- the framing never looks inside the three fields: replacing the bytes of a scriptPubKey, a scriptSig or a witness item by
    any bytes of the same length keeps the enclosing structure well-formed (so the round-trip and whole-run theorems apply
    to the result), and witness items are not even part of the parsed transaction -/
theorem content_free :
    (∀ (o : W.TxOut) (s' : W.Bytes), s'.length = o.script.length → o.ok → ({ o with script := s' } : W.TxOut).ok) ∧
    (∀ (i : W.TxIn) (s' : W.Bytes), s'.length = i.script.length → i.ok → ({ i with script := s' } : W.TxIn).ok) ∧
    (∀ (w : W.WitItem) (d' : W.Bytes), d'.length = w.data.length → w.ok → ({ w with data := d' } : W.WitItem).ok) ∧
    (∀ (t : W.Tx) (sw : Option W.Segwit), ({ t with segwit := sw } : W.Tx).toR = t.toR) :=
  ⟨fun _ _ h ⟨h1, h2, h3, h4⟩ => ⟨h1, h2, h3.trans h.symm, h4⟩,
   fun _ _ h ⟨h1, h2, h3, h4, h5, h6⟩ => ⟨h1, h2, h3, h4.trans h.symm, h5, h6⟩,
   fun _ _ h ⟨h1, h2, h3⟩ => ⟨h1, h2.trans h.symm, h3⟩, fun _ _ => rfl⟩

/-- rows not derived from the field are what they are without it: within a transaction every tx_in row is a function of
    (txid, that input) and every tx_out row of (txid, index, that output); across transactions, replacing one transaction of
    a block leaves the rows of all the others untouched -/
theorem rows_noninterference (ver : UInt8) (bh : String) (t : W.Tx) (b : W.Block) (i : Nat) (t' : W.Tx) :
    (Run.txRowsA ver bh t).2.1 = t.ins.map (fun i =>
      s!"{Csv.hashHex (A.sha256d t.encStripped)};{Csv.hashHex i.prev};{i.idx};{Sha.hex i.script};{i.seq}") ∧
    (Run.txRowsA ver bh t).2.2 = ((List.range t.outs.length).zip t.outs).map (fun (k, o) =>
      s!"{Csv.hashHex (A.sha256d t.encStripped)};{k};{o.value};{Sha.hex o.script};{((S.eval ver o.script).address).getD ""}") ∧
    ({ b with txs := b.txs.set i t' } : W.Block).txs.map (Run.txRowsA ver (Csv.hashHex (A.sha256d b.header.enc))) =
      (b.txs.map (Run.txRowsA ver (Csv.hashHex (A.sha256d b.header.enc)))).set i
        (Run.txRowsA ver (Csv.hashHex (A.sha256d b.header.enc)) t') :=
  ⟨rfl, rfl, by simp [List.map_set]⟩

/-- non-vacuity: the panic outcome of the counter model is reachable without the guard (the 256th push) -/
example : SMB.keysM [some (Ins.push [])] 255 = .panic := by decide

/-- non-vacuity: a PUSHDATA4 announcing 2^32-1 bytes on a 5-byte script ends in `eof`, not in a panic -/
example : SM.loop [0x4e, 0xff, 0xff, 0xff, 0xff] 6 0 [] = .eof := by decide

end Rbp.Props.C14
