import Rbp.Model.Balances
import Rbp.Proofs.Utxo
import Rbp.Proofs.RunSpec
import Rbp.Props.C10
/-!
# C08 — balances lists each address once with the sum of its unspent outputs
-/
namespace Rbp.Props.C08
open Std CB

/-- the (address, value) pairs of the unspent set, in the map's iteration order -/
def pairs (m : HashMap W.Bytes Unspent) : List (String × Nat) := m.toList.map (fun p => (p.2.address, p.2.value))

/-- the executable accumulation of `balances` is the generic per-address fold over the unspent set -/
theorem balanceMap_eq (m : HashMap W.Bytes Unspent) : balanceMap m = B.bal ∅ (pairs m) := by
  unfold balanceMap pairs B.bal
  rw [List.foldl_map]
  rfl

/-- an address is listed iff it owns at least one unspent output (C07's set), and its balance is the exact sum of those
    outputs' values; any other address is absent -/
theorem balances_spec (m : HashMap W.Bytes Unspent) (a : String) :
    (balanceMap m)[a]? = if B.occurs a (pairs m) then some (B.sumFor a (pairs m)) else none := by
  rw [balanceMap_eq]; exact B.balances_spec _ a

/-- conservation: the balances of all rows add up to the values of all unspent outputs — aggregation by address neither creates
    nor loses a satoshi, whatever the number of addresses, outputs per address or iteration order of either map -/
theorem aggregation_conserves_value (m : HashMap W.Bytes Unspent) :
    B.total (balanceMap m).toList = B.total (pairs m) := by
  rw [balanceMap_eq]; exact B.total_bal_empty _

/-- non-vacuity of the helper behind it: three outputs over two addresses -/
example : B.total [("a", 5), ("b", 7), ("a", 11)] = 23 := by decide

/-- each address once: rows come from the bindings of a map -/
theorem one_row_per_address (m : HashMap W.Bytes Unspent) :
    (balanceMap m).toList.Pairwise (fun x y => (x.1 == y.1) = false) :=
  HashMap.distinct_keys_toList

/-- balances and unspentcsvdump run the same fold over the same blocks: the balances file is the per-address
    aggregation of the unspent set that `unspentcsvdump` lists for the same data directory and range -/
theorem balances_eq_unspent_aggregate (ver : UInt8) (bs : List EBlock) :
    balanceMap (utxo ver bs) = B.bal ∅ (pairs (U.run ∅ (opsOf ver bs))) := by
  rw [balanceMap_eq, utxo_eq_run]

/-- **whole run.**  For a stored chain, `balances` — when no per-address sum leaves u64 (`balancePanics`, the code's own
    `+=`) — exits 0 and writes one file `balances-start-maxH.csv`: the header followed by one row `address;balance` per
    binding of `balanceMap` over the unspent set of exactly the delivered blocks -/
theorem balances_run_spec (o : Run.Opts) (key : Option W.Bytes) (kvs : List (W.Bytes × W.Bytes)) (files : List Run.BlkFile)
    (coin : Run.Coin) (ld : Run.Loaded) (hcoin : Run.coinOf o.coin = some coin) (hld : Run.loadIndex o kvs = .ok ld)
    (hkey : key ≠ some []) (sz : Nat → Nat) (blk : Nat → W.Block)
    (hs : ∀ k, o.start ≤ k → k < o.start + (ld.maxH + 1 - o.start) →
      Run.Stored coin key (files.filterMap fun f => (Run.parseBlkIndex f.name).map fun n => (n, f)) ld.trimmed k (sz k) (blk k) ∧
      (o.verify = true → Run.verifyBlock coin ld.trimmed (blk k).toR k = .ok ()))
    (hne : o.start ≤ ld.maxH) (hcb : o.callback = "balances")
    (hnp : balancePanics (utxo coin.version
      ((List.range' o.start (ld.maxH + 1 - o.start)).map (fun k => (⟨k, sz k, (blk k).toR⟩ : EBlock)))) = false) :
    let bs := (List.range' o.start (ld.maxH + 1 - o.start)).map (fun k => (⟨k, sz k, (blk k).toR⟩ : EBlock))
    (Run.run o key kvs files).exit = 0 ∧
    (Run.run o key kvs files).files =
      [(s!"balances-{o.start}-{ld.maxH}.csv", "address;balance" :: balanceRows (utxo coin.version bs))] := by
  intro bs
  obtain ⟨h0, _, hf, _⟩ := Run.run_stored o key kvs files coin ld hcoin hld hkey sz blk hs hne
    (by simp only [Run.callbackPanics, hcb]; exact hnp)
  refine ⟨h0, ?_⟩
  rw [hf]; simp only [Run.callbackOut, hcb]; rfl

/-- non-vacuity: two outputs of one address and one of another -/
example : B.sumFor "a" [("a", 5), ("b", 7), ("a", 9)] = 14 ∧ B.occurs "b" [("a", 5), ("b", 7), ("a", 9)] = true := by decide

/-- **every input.**  Whenever a `balances` run exits 0, its file is the header followed by one row per binding of `balanceMap`
    over the UTXO fold of exactly the delivered blocks — the same fold `unspentcsvdump` lists (`C07.exit0_dump_is_fold_over_delivered`),
    so the two dumps of one directory and range always aggregate to each other -/
theorem exit0_balances_is_aggregate_of_delivered (o : Run.Opts) (key : Option W.Bytes) (kvs : List (W.Bytes × W.Bytes)) (files : List Run.BlkFile)
    (coin : Run.Coin) (hcoin : Run.coinOf o.coin = some coin) (hcb : o.callback = "balances")
    (h0 : (Run.run o key kvs files).exit = 0) :
    (Run.run o key kvs files).files =
      [(s!"balances-{o.start}-{o.start + (Run.deliveredBlocks o key kvs files).length - 1}.csv",
        "address;balance" :: balanceRows (utxo coin.version (Run.deliveredBlocks o key kvs files)))] := by
  have := (Rbp.Props.C10.exit0_output_is_callback_over_delivered o key kvs files coin hcoin h0).1
  rw [this]
  simp [Run.callbackOut, hcb]

/-- partial sums ADD: the sum for an address over two pieces of the unspent outputs is the sum of the two partial sums -/
theorem sumFor_append (a : String) (l1 l2 : List (String × Nat)) : B.sumFor a (l1 ++ l2) = B.sumFor a l1 + B.sumFor a l2 := by
  simp only [B.sumFor_eq_total, B.total, List.filter_append, List.map_append, List.sum_append_nat]

theorem occurs_append (a : String) (l1 l2 : List (String × Nat)) : B.occurs a (l1 ++ l2) = (B.occurs a l1 || B.occurs a l2) := by
  simp only [B.occurs_eq_any, List.any_append]

/-- **however the unspent outputs are cut into pieces** (chunks of 65536, one per worker, one per block …): an address's balance is the
    SUM over the pieces of its partial sums, and it is listed iff some piece contains one of its outputs — a merge that keeps one
    piece's partial sum, or the last one's, is not this function -/
theorem balance_is_sum_of_chunk_sums (a : String) (chunks : List (List (String × Nat))) :
    B.sumFor a chunks.flatten = (chunks.map (B.sumFor a)).sum ∧ B.occurs a chunks.flatten = chunks.any (B.occurs a) := by
  induction chunks with
  | nil => simp [B.sumFor, B.occurs]
  | cons c cs ih => simp [sumFor_append, occurs_append, ih.1, ih.2]

/-- the accumulation can be resumed: folding a second piece into the table of the first is folding the concatenation -/
theorem bal_append (m : HashMap String Nat) (l1 l2 : List (String × Nat)) : B.bal m (l1 ++ l2) = B.bal (B.bal m l1) l2 := by
  simp [B.bal, List.foldl_append]

example : B.sumFor "a" ([[("a", 5), ("b", 7)], [("a", 9)], []] : List (List (String × Nat))).flatten = 5 + 9 + 0 := by decide
end Rbp.Props.C08
