import Rbp.Proofs.OutputCsv
import Rbp.Model.Hex
import Rbp.Model.Script
import Rbp.Model.Run
import Rbp.Model.Output

/-! Line-protocol driver of the executable model: `rbp-model <cmd>` answers one line per request line. -/
open Hex

def fieldHex (bs : List UInt8) : String := if bs.isEmpty then "-" else hex bs
def parseHex (s : String) : List UInt8 := if s == "-" then [] else (unhex s).getD []

def patternTag (p : S.Pattern) : String := p.name

def answerScript (toks : List String) : String :=
  match toks with
  | [v, s] =>
    match unhex v with
    | some [ver] =>
      let r := S.eval ver (parseHex s)
      let payload := match r.pattern with | .opReturn d => fieldHex d | _ => "-"
      s!"{patternTag r.pattern} {r.address.getD "-"} {payload}"
    | _ => "bad-request"
  | [v] =>
    match unhex v with
    | some [ver] =>
      let r := S.eval ver []
      let payload := match r.pattern with | .opReturn d => fieldHex d | _ => "-"
      s!"{patternTag r.pattern} {r.address.getD "-"} {payload}"
    | _ => "bad-request"
  | _ => "bad-request"

/-! ### `block`: parse one block and dump every field (same format as the hook) -/
def dumpBlock (ver : UInt8) (size : Nat) (b : Csv.RBlock) (a : Option Aux.RAux) : Option String :=
  match M.rootRust A.sha256d (b.txs.map CB.txid) with
  | none => none
  | some root =>
    let h := b.header
    let head := s!"H {Csv.hashHex (Run.blockHash b)} {h.version} {size} {Csv.hashHex h.prev} {Csv.hashHex h.merkle} {h.time} {h.bits} {h.nonce} {b.txCount.value} "
    let aux := match a with
      | none => "N "
      | some a => s!"A {Csv.hashHex (A.sha256d a.coinbase.toBytes)} {Csv.hashHex a.parentHash} {a.coinbaseBranch.hashes.length} {a.coinbaseBranch.mask} {a.chainBranch.hashes.length} {a.chainBranch.mask} {hex a.parent.toBytes} "
    let txs := b.txs.map fun t =>
      s!"T {Csv.hashHex (CB.txid t)} {t.version} {t.lock} {t.toBytes.length} {t.icnt.value} {t.ocnt.value} " ++
      String.join (t.ins.map fun i => s!"I {Csv.hashHex i.prev} {i.idx} {fieldHex i.script} {i.seq} ") ++
      String.join (t.outs.map fun o =>
        let e := S.eval ver o.script
        s!"O {o.value} {fieldHex o.script} {(patternTag e.pattern)} {e.address.getD "-"} ")
    some (head ++ aux ++ String.join txs ++ (if root == h.merkle then "M1" else "M0"))

def answerBlock (toks : List String) : String :=
  match toks with
  | coin :: size :: rest =>
    match Run.coinOf coin with
    | none => "bad-request"
    | some c =>
      let bytes := match rest with | [h] => parseHex h | _ => []
      match Aux.readBlockAux c.auxpow bytes with
      | none => "eof"
      | some ((b, a), r) =>
        match dumpBlock c.version size.toNat! b a with
        | none => "PANIC"
        | some d => s!"ok {r.length} {d}"
  | _ => "bad-request"

def answerVarint (toks : List String) : String :=
  let bs := match toks with | [h] => parseHex h | _ => []
  match VI.dec 0 bs with
  | .ok n r => s!"ok {n} {bs.length - r.length}"
  | .eof => "eof"
  | .panic => "PANIC"

def answerRecord (toks : List String) : String :=
  let (k, v) := match toks with | [k, v] => (parseHex k, parseHex v) | [k] => (parseHex k, []) | _ => ([], [])
  match k with
  | [] => "PANIC"
  | b :: _ =>
    if b ≠ 0x62 then "ok foreign" else
    match Run.decodeRecFull k v with
    | .ok f => s!"ok {Csv.hashHex f.r.hash} {f.version} {f.r.height} {f.r.status} {f.ntx} {f.r.file} {f.r.off}"
    | .err _ => "eof"
    | .panic _ => "PANIC"

def answerBlkname (toks : List String) : String :=
  let bs := match toks with | [h] => parseHex h | _ => []
  match String.fromUTF8? (ByteArray.mk bs.toArray) with
  | none => "PANIC"
  | some name => match Run.parseBlkIndex name with | some n => s!"some {n}" | none => "none"

def answerCompact (toks : List String) : String :=
  let bs := match toks with | [h] => parseHex h | _ => []
  match W.readVarUint bs with
  | some (v, r) => s!"ok {v.value} {fieldHex v.raw} {bs.length - r.length}"
  | none => "eof"

/-- `xor <key> <cap> <data> <op>*`: the XorReader machine of the model over a positional reader (capacity is irrelevant to the model) -/
def answerXor (toks : List String) : String :=
  match toks with
  | k :: _cap :: d :: ops =>
    let key := parseHex k
    let data := parseHex d
    let step (st : Nat × List String) (op : String) : Nat × List String :=
      let n := (op.drop 1).toString.toNat!
      if op.startsWith "s" then (n, st.2)
      else
        let chunk := (data.drop st.1).take n
        let plain := if key.isEmpty then chunk else X.xorAt key st.1 chunk
        (st.1 + chunk.length, st.2 ++ [fieldHex plain])
    "|".intercalate (ops.foldl step (0, [])).2
  | _ => "bad-request"

def answerMean (toks : List String) : String :=
  let vs := toks.map String.toNat!
  if vs.isEmpty then "0/1" else s!"{vs.foldl (·+·) 0}/{vs.length}"

def answerReward (toks : List String) : String :=
  match toks with
  | [h] => let k := h.toNat! / 210000
           if k ≥ 64 then "PANIC" else toString ((5000000000 : Nat) >>> k)
  | _ => "bad-request"

/-- `outfile <cap> <budget|-> <row length>*`: one output file through the BufWriter machine with the repaired program
    (write rows, explicit flush, rename, drop) -/
def answerOutfile (toks : List String) : String :=
  match toks with
  | cap :: budget :: lens =>
    let b := if budget == "-" then 1000000000000 else budget.toNat!
    let chunks := lens.map fun l => List.replicate l.toNat! (0 : UInt8)
    let s := O.exec (O.init cap.toNat! b) (O.fixedProg chunks)
    let ws := s.w.log.filter (fun p => p.1 > 0)
    s!"ok {if s.ok then 1 else 0} renamed {if s.renamed then 1 else 0} disk {s.w.disk.length} writes " ++
      " ".intercalate (ws.map fun p => s!"{p.1}:{p.2}")
  | _ => "bad-request"

def answer (cmd : String) (line : String) : String :=
  let toks := (line.trimAscii.toString.splitOn " ").filter (· ≠ "")
  match cmd with
  | "script" => answerScript toks
  | "block" => answerBlock toks
  | "varint" => answerVarint toks
  | "outfile" => answerOutfile toks
  | "utf8" => (match toks with
      | [h] => let bs := parseHex h
               s!"{if L.valid bs then 1 else 0} {if (ByteArray.mk bs.toArray).validateUTF8 then 1 else 0} {fieldHex (L.lossy bs)}"
      | _ => "bad-request")
  | "record" => answerRecord toks
  | "blkname" => answerBlkname toks
  | "compactsize" => answerCompact toks
  | "xor" => answerXor toks
  | "mean" => answerMean toks
  | "basereward" => answerReward toks
  | "merkle" => match M.rootRust A.sha256d (toks.map parseHex) with | some r => fieldHex r | none => "PANIC"
  | _ => "bad-command"

/-! ### `run`: whole-program scenarios (DESIGN Appendix D) -/

structure ScenAcc where
  fstrace : Bool := false
  opts : Run.Opts := ⟨"bitcoin", false, 0, none, "csvdump"⟩
  key : Option (List UInt8) := none
  kvs : List (List UInt8 × List UInt8) := []
  files : List Run.BlkFile := []

def scenLine (a : ScenAcc) (toks : List String) : ScenAcc :=
  match toks with
  | ["opts", coin, v, s, e, cb] =>
    { a with opts := ⟨coin, v == "1", s.toNat!, if e == "-" then none else some e.toNat!, cb⟩ }
  | ["fstrace"] => { a with fstrace := true }
  | ["xorkey", k] => { a with key := if k == "none" then none else some (parseHex k) }
  | ["kv", k, v] => { a with kvs := (parseHex k, parseHex v) :: a.kvs }
  | ["kv", k] => { a with kvs := (parseHex k, []) :: a.kvs }
  | ["file", name, size] => { a with files := a.files ++ [⟨name, size.toNat!, []⟩] }
  | ["seg", name, off, data] =>
    { a with files := a.files.map fun f => if f.name == name then { f with segs := f.segs ++ [⟨off.toNat!, parseHex data⟩] } else f }
  | _ => a

def renderOutput (o : Run.Output) : List String :=
  [s!"exit {o.exit}", s!"errheight {match o.errHeight with | some h => toString h | none => "-"}", s!"msg {o.msg}",
   "delivered " ++ " ".intercalate (o.delivered.map toString),
   "hashes " ++ " ".intercalate (o.hashes.map Csv.hashHex)] ++
  o.files.flatMap (fun (n, ls) => s!"file {n} {ls.length}" :: ls.map ("row " ++ ·)) ++
  o.stdout.map ("out " ++ ·) ++
  o.events.map (fun e => match e with | .opening f => s!"ev open {f}" | .closing f => s!"ev close {f}") ++
  ["done"]

/-- global order of the raw writes and renames of csvdump's four writers (the n-writer machine `ON` run on the write program
    of `CsvDump::on_block`): `w<i>:<bytes>` per `write(2)`, `r<i>` per rename -/
def fsTrace (cap : Nat) (ver : UInt8) (bs : List CB.EBlock) : String :=
  let prog := ON.prog 4 (Run.csvWrites ver bs)
  let (_, evs) := prog.foldl (fun (st : ON.S × List String) c =>
    let s' := ON.step st.1 c
    let news := (List.range 4).flatMap fun i =>
      (((s'.ws i).log.drop (st.1.ws i).log.length).filter (fun p => p.1 > 0)).map fun p => s!"w{i}:{p.2}"
    let ren := match c with | .rename i => if st.1.ok then [s!"r{i}"] else [] | _ => []
    (s', ren.reverse ++ news.reverse ++ st.2)) (ON.init cap (fun _ => 1000000000000), [])
  " ".intercalate evs.reverse

partial def runLoop (hin hout : IO.FS.Stream) (a : ScenAcc) : IO Unit := do
  let line ← hin.getLine
  if line.isEmpty then return ()
  let toks := (line.trimAscii.toString.splitOn " ").filter (· ≠ "")
  if toks == ["end"] then
    let o := Run.main a.opts a.key a.kvs a.files
    for l in (renderOutput o).dropLast do hout.putStrLn l
    if a.fstrace && a.opts.callback == "csvdump" && o.exit == 0 then
      let ver := match Run.coinOf a.opts.coin with | some c => c.version | none => 0
      hout.putStrLn ("fstrace " ++ fsTrace 4000000 ver (Run.deliveredBlocks a.opts a.key a.kvs a.files))
    hout.putStrLn "done"
    hout.flush
    runLoop hin hout {}
  else runLoop hin hout (scenLine a toks)

partial def loop (cmd : String) (hin : IO.FS.Stream) (hout : IO.FS.Stream) : IO Unit := do
  let line ← hin.getLine
  if line.isEmpty then return ()
  hout.putStrLn (answer cmd line)
  loop cmd hin hout

def main (args : List String) : IO UInt32 := do
  match args with
  | [cmd] =>
    let hin ← IO.getStdin
    let hout ← IO.getStdout
    if cmd == "run" then runLoop hin hout {} else loop cmd hin hout
    hout.flush
    return 0
  | _ =>
    IO.eprintln "usage: rbp-model <cmd>"
    return 2
